-- generated by harness/gen_manifest.py
import Fs.Core.Wire
import Fs.Model.Cli
import Fs.Model.Connect
import Fs.Model.Crash
import Fs.Model.Descr
import Fs.Model.DmlExec
import Fs.Model.DmlRel
import Fs.Model.ErrScen
import Fs.Model.Errors
import Fs.Model.Fetch
import Fs.Model.Fold
import Fs.Model.Gen
import Fs.Model.Http
import Fs.Model.Json
import Fs.Model.Lex
import Fs.Model.Merge
import Fs.Model.Meta
import Fs.Model.Names
import Fs.Model.Params
import Fs.Model.Patch
import Fs.Model.Rewrite
import Fs.Model.Sched
import Fs.Model.Split
import Fs.Model.Tx
import Fs.Model.Types
import Fs.Model.Vars
import Fs.Spec.Dml
import Fs.Spec.Json
import Fs.Proofs.Basic
import Fs.Proofs.Cli
import Fs.Proofs.Connect
import Fs.Proofs.Crash
import Fs.Proofs.Descr
import Fs.Proofs.Dml
import Fs.Proofs.Errors
import Fs.Proofs.Fetch
import Fs.Proofs.Fold
import Fs.Proofs.Http
import Fs.Proofs.JsonConstruct
import Fs.Proofs.JsonEval
import Fs.Proofs.JsonPipeline
import Fs.Proofs.JsonPrec
import Fs.Proofs.JsonText
import Fs.Proofs.Lex
import Fs.Proofs.Merge
import Fs.Proofs.MergeCounts
import Fs.Proofs.Meta
import Fs.Proofs.Names
import Fs.Proofs.Params
import Fs.Proofs.Patch
import Fs.Proofs.Rewrite
import Fs.Proofs.Sched
import Fs.Proofs.SchedLock
import Fs.Proofs.Split
import Fs.Proofs.StrLit
import Fs.Proofs.Tx
import Fs.Proofs.Types
import Fs.Proofs.Vars
import Fs.Props.C01
import Fs.Props.C02
import Fs.Props.C03
import Fs.Props.C04
import Fs.Props.C05
import Fs.Props.C06
import Fs.Props.C07
import Fs.Props.C08
import Fs.Props.C09
import Fs.Props.C10
import Fs.Props.C11
import Fs.Props.C12
import Fs.Props.C13
import Fs.Props.C14
import Fs.Props.C15
import Fs.Props.C16
import Fs.Props.C17
import Fs.Props.C18
import Fs.Props.C19
import Fs.Props.C20
import Fs.Drv.Cli
import Fs.Drv.Connect
import Fs.Drv.Crash
import Fs.Drv.Descr
import Fs.Drv.Dml
import Fs.Drv.Err
import Fs.Drv.Fetch
import Fs.Drv.Fold
import Fs.Drv.Http
import Fs.Drv.Json
import Fs.Drv.Merge
import Fs.Drv.Meta
import Fs.Drv.Names
import Fs.Drv.Params
import Fs.Drv.Patch
import Fs.Drv.Rewrite
import Fs.Drv.Sched
import Fs.Drv.Split
import Fs.Drv.Tx
import Fs.Drv.Types
import Fs.Drv.Vars
