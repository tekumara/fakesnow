import Fs.Model.Lex
/-!
# Model of client-side parameter binding (`cursor.py:428-446`, `conn.py:51`, `cursor.py:360-377`)

`_rewrite_with_params`: when the connection's paramstyle snapshot is `pyformat`/`format` and `params` is
non-empty, every value goes through the connector's `quote(escape(to_snowflake(v)))` and the command is
formatted with Python's `%` operator; otherwise command and params are handed on unchanged (qmark: DuckDB
binds them as prepared-statement values).

Connector/CPython behaviour modelled here (trusted base, exercised by the correspondence check):
`SnowflakeConverter.escape` = four sequential `str.replace`, `quote`, `str % tuple` / `str % dict` for the
conversions `%s`, `%(key)s`, `%%`; sqlglot's DuckDB generator (`'` doubled) and DuckDB's string lexer.
-/
namespace Fs.Params
open Fs.Lex

/-! ## escape / quote -/

/-- `str.replace(c, r)` for a one-character pattern -/
def replaceChar (c : Char) (r : List Char) : List Char → List Char
  | [] => []
  | x :: xs => if x = c then r ++ replaceChar c r xs else x :: replaceChar c r xs

/-- `SnowflakeConverter.escape` on a `str`, as written: four sequential replaces -/
def escapeSeq (s : List Char) : List Char :=
  replaceChar '\'' ['\\', '\''] (replaceChar '\r' ['\\', 'r'] (replaceChar '\n' ['\\', 'n']
    (replaceChar '\\' ['\\', '\\'] s)))

/-- the same as one left-to-right pass (proved equal: `Fs.C08.C08_escape_single_pass`) -/
def escape : List Char → List Char
  | [] => []
  | c :: cs =>
    if c = '\\' then '\\' :: '\\' :: escape cs
    else if c = '\n' then '\\' :: 'n' :: escape cs
    else if c = '\r' then '\\' :: 'r' :: escape cs
    else if c = '\'' then '\\' :: '\'' :: escape cs
    else c :: escape cs

/-- `SnowflakeConverter.quote` on a `str` -/
def quote (s : List Char) : List Char := '\'' :: s ++ ['\'']

/-! ## values -/

/-- A bound Python value after `to_snowflake`.  `num` carries the `repr` text of a finite int/float
    (`IS_NUMERIC`), `special` the `repr` of a non-finite float (`inf`, `-inf`, `nan`); `str` is a `str`,
    or the text `to_snowflake` produced for a Decimal / date / datetime / time. -/
inductive Val where
  | null
  | bool (b : Bool)
  | num (repr : List Char)
  | special (repr : List Char)
  | str (s : List Char)
  | list (items : List Val)
  deriving Repr

mutual
/-- `quote(escape(to_snowflake v))`: the text that replaces the placeholder (code as it exists) -/
def Val.lit : Val → List Char
  | .null => ['N', 'U', 'L', 'L']
  | .bool true => ['T', 'R', 'U', 'E']
  | .bool false => ['F', 'A', 'L', 'S', 'E']
  | .num r => r
  | .special r => r
  | .str s => quote (escapeSeq s)
  | .list items => Val.litItems items
/-- `",".join(quote(escape(v)) for v in value)` -/
def Val.litItems : List Val → List Char
  | [] => []
  | [v] => v.lit
  | v :: vs => v.lit ++ ',' :: Val.litItems vs
end

/-- what a correct literal for the value is: the same text, except that a non-finite float has to be
    written as a cast string (`inf` on its own is an identifier) -/
def Val.specLit : Val → List Char
  | .special r => quote r ++ [':', ':', 'F', 'L', 'O', 'A', 'T']
  | v => v.lit

/-! ## `to_snowflake` for datetimes -/

def pad (w n : Nat) : List Char :=
  let s := (toString n).toList
  List.replicate (w - s.length) '0' ++ s

/-- the connector's `_datetime_to_snowflake`: the wall-clock fields AS GIVEN (no conversion to UTC or to the session
    time zone), microseconds only when non-zero, and for an aware datetime its own UTC offset `±HH:MM` (`off` in minutes) -/
def dtText (y mo d h mi s us : Nat) (off : Option Int) : List Char :=
  (toString y).toList ++ '-' :: pad 2 mo ++ '-' :: pad 2 d ++ ' ' :: pad 2 h ++ ':' :: pad 2 mi ++ ':' :: pad 2 s
    ++ (if us = 0 then [] else '.' :: pad 6 us)
    ++ match off with
       | none => []
       | some o => (if o ≥ 0 then '+' else '-') :: pad 2 (o.natAbs / 60) ++ ':' :: pad 2 (o.natAbs % 60)

/-! ## `%` formatting -/

inductive Args where
  | seq (vs : List (List Char))
  | map (kv : List (List Char × List Char))
  deriving Repr

inductive Fmt where
  | ok (text : List Char)
  | err           -- TypeError / KeyError / ValueError from `%`
  | unsupported   -- a conversion this model does not cover (flags, width, %d, %r, nested parentheses in a key, `%s` with a dict)
  deriving DecidableEq, Repr

def Fmt.cons (c : Char) : Fmt → Fmt
  | .ok t => .ok (c :: t)
  | f => f
def Fmt.app (v : List Char) : Fmt → Fmt
  | .ok t => .ok (v ++ t)
  | f => f

def lookup (k : List Char) : List (List Char × List Char) → Option (List Char)
  | [] => none
  | (k', v) :: kv => if k = k' then some v else lookup k kv

/-- scanner state of `str.__mod__` -/
inductive FSt where
  | text                       -- copying
  | pct                        -- just after `%`
  | key (acc : List Char)      -- inside `%(…`
  | keyEnd (acc : List Char)   -- after `%(key)`
  deriving Repr

/-- `command % args`, one character at a time.  `rest` = positional values not yet consumed. -/
def fmtGo : FSt → Args → List (List Char) → List Char → Fmt
  | .text, .seq _, rest, [] => if rest.isEmpty then .ok [] else .err   -- "not all arguments converted"
  | .text, .map _, _, [] => .ok []
  | _, _, _, [] => .err                                                -- "incomplete format"
  | .text, a, rest, c :: cs => if c = '%' then fmtGo .pct a rest cs else (fmtGo .text a rest cs).cons c
  | .pct, a, rest, c :: cs =>
    if c = '%' then (fmtGo .text a rest cs).cons '%'
    else if c = 's' then
      match a, rest with
      | .seq _, v :: rest' => (fmtGo .text a rest' cs).app v
      | .seq _, [] => .err                                             -- "not enough arguments"
      | .map _, _ => .unsupported
    else if c = '(' then
      match a with
      | .map _ => fmtGo (.key []) a rest cs
      | .seq _ => .err                                                 -- "format requires a mapping"
    else .unsupported
  | .key acc, a, rest, c :: cs =>
    if c = ')' then fmtGo (.keyEnd acc) a rest cs
    else if c = '(' then .unsupported
    else fmtGo (.key (acc ++ [c])) a rest cs
  | .keyEnd acc, a, rest, c :: cs =>
    if c = 's' then
      match a with
      | .map kv => match lookup acc kv with
        | some v => (fmtGo .text a rest cs).app v
        | none => .err                                                 -- KeyError
      | .seq _ => .err
    else .unsupported

def Args.isEmpty : Args → Bool
  | .seq vs => vs.isEmpty
  | .map kv => kv.isEmpty

def Args.initial : Args → List (List Char)
  | .seq vs => vs
  | .map _ => []

/-- `command % params` -/
def fmt (cmd : List Char) (a : Args) : Fmt := fmtGo .text a a.initial cmd

/-! ## paramstyle and the execute phases -/

inductive Style where
  | pyformat | format | qmark | numeric
  deriving DecidableEq, Repr

def Style.clientSide : Style → Bool
  | .pyformat | .format => true
  | _ => false

/-- `_rewrite_with_params`: `(text to parse, are the params still to be bound by the engine)` -/
def rewrite (style : Style) (cmd : List Char) (a : Args) : Fmt × Bool :=
  if !a.isEmpty && style.clientSide then (fmt cmd a, false) else (.ok cmd, !a.isEmpty)

/-- `execute` phases `cursor.py:138-139`: variables are inlined in the command text first, then the
    (already quoted) values are substituted.  `inline` is the variable phase (C15), `none` = it raised. -/
def phases (inline : List Char → Option (List Char)) (style : Style) (cmd : List Char) (a : Args) : Option (Fmt × Bool) :=
  (inline cmd).map fun c => rewrite style c a

/-- the life of one cursor: successive `execute` calls.  `_rewrite_with_params` keeps no state between them (the
    converter is a pure function of the value: no cache, no memo) -/
def cursorRun (style : Style) : List (List Char × Args) → List (Fmt × Bool)
  | [] => []
  | (c, a) :: xs => rewrite style c a :: cursorRun style xs

/-! ## paramstyle snapshot (`conn.py:51`) -/

inductive POp where
  | setGlobal (s : Style)     -- `snowflake.connector.paramstyle = s`
  | connect                   -- `snowflake.connector.connect(...)`
  | exec (conn : Nat)         -- a statement with params on connection #conn
  deriving Repr

structure PWorld where
  global : Style := .pyformat
  conns : List Style := []    -- snapshot per connection, in connect order
  deriving Repr

/-- returns the style a statement is executed under (for `exec`) -/
def pstep (w : PWorld) : POp → PWorld × Option Style
  | .setGlobal s => ({ w with global := s }, none)
  | .connect => ({ w with conns := w.conns ++ [w.global] }, none)
  | .exec i => (w, w.conns[i]?)

def prun : PWorld → List POp → PWorld × List (Option Style)
  | w, [] => (w, [])
  | w, o :: os => ((prun (pstep w o).1 os).1, (pstep w o).2 :: (prun (pstep w o).1 os).2)

/-! ## DuckDB side: generator and lexer for string literals -/

/-- sqlglot DuckDB generator `escape_str`: `'` → `''` (no other escapes in this dialect) -/
def duckGen : List Char → List Char
  | [] => []
  | c :: cs => if c = '\'' then '\'' :: '\'' :: duckGen cs else c :: duckGen cs

/-- DuckDB's lexer positioned after an opening quote of a plain string constant: `''` is a quote, a
    single `'` ends it; NUL is rejected ("unterminated quoted string").  Returns value and rest. -/
def duckLex : List Char → Option (List Char × List Char)
  | [] => none
  | [c] => if c = '\'' then some ([], []) else none
  | c :: p :: rest =>
    if c = Char.ofNat 0 then none
    else if c = '\'' then
      if p = '\'' then (duckLex rest).map fun (t, r) => ('\'' :: t, r)
      else some ([], p :: rest)
    else (duckLex (p :: rest)).map fun (t, r) => (c :: t, r)

def noNul (s : List Char) : Bool := !s.contains (Char.ofNat 0)

/-! ## qmark: values bound by the engine (`cursor.py:251`) -/

/-- how DuckDB's Python binding receives a Python `int` as a prepared-statement value -/
inductive QBound where
  | exact     -- BIGINT / UBIGINT / HUGEINT: the integer itself
  | double    -- silently converted to DOUBLE (nearest double)
  | error     -- conversion error
  deriving DecidableEq, Repr

/-- the pinned code handed every int to DuckDB's binding as it was: ≥ 2^64 became a DOUBLE (regression witness) -/
def qmarkBindIntOld (i : Int) : QBound :=
  if i ≥ 2 ^ 64 then .double else if i < -(2 ^ 127) then .error else .exact

/-- repaired code (`5c8660f`): an int outside the int64 range is bound as `Decimal`, which DuckDB receives exactly
    as long as it has at most 38 digits (NUMBER(38,0), the whole domain of the property) -/
def qmarkBindInt (i : Int) : QBound :=
  if -(2 ^ 63) ≤ i ∧ i < 2 ^ 63 then .exact
  else if -(10 ^ 38) < i ∧ i < 10 ^ 38 then .exact else .error

/-- NUMBER(38,0) -/
def inNumber38 (i : Int) : Prop := -(10 ^ 38) < i ∧ i < 10 ^ 38

/-- expression skeleton, for counting placeholders.  `dup a` is a call whose rewrite renders its operand
    twice: `ARRAY_SIZE(a)` becomes `CASE WHEN JSON_ARRAY_LENGTH(a) THEN JSON_ARRAY_LENGTH(a) END`
    (`transforms.array_size`). -/
inductive QExpr where
  | ph
  | const
  | app (a b : QExpr)
  | dup (a : QExpr)
  deriving DecidableEq, Repr

/-- `?` placeholders in the statement as written -/
def QExpr.phs : QExpr → Nat
  | .ph => 1
  | .const => 0
  | .app a b => a.phs + b.phs
  | .dup a => a.phs

/-- `?` placeholders in the DuckDB SQL that is executed -/
def QExpr.phsRendered : QExpr → Nat
  | .ph => 1
  | .const => 0
  | .app a b => a.phsRendered + b.phsRendered
  | .dup a => a.phsRendered + a.phsRendered

/-- no operand-duplicating rewrite has a placeholder beneath it -/
def QExpr.dupFree : QExpr → Bool
  | .ph => true
  | .const => true
  | .app a b => a.dupFree && b.dupFree
  | .dup a => a.phs == 0 && a.dupFree

/-- DuckDB accepts `n` values iff `n` = number of placeholders in the executed SQL -/
def qmarkAccepts (e : QExpr) (n : Nat) : Bool := e.phsRendered == n

/-- a statement that fakesnow explodes into several engine statements (MERGE → candidates, one DELETE/UPDATE/INSERT
    per clause, counts; `cursor.py:145-148`): each of them is executed with the WHOLE qmark parameter list, and DuckDB
    accepts a statement only if its own placeholder count equals the length of the list.
    `counts` = placeholders per generated statement. -/
def explodeAccepts (counts : List Nat) (n : Nat) : Bool := counts.all (· == n)

/-- `executemany` (`cursor.py:360-377`): one `execute` per parameter set, in order — every row takes the same path
    as a single `execute` (client-side substitution, or the engine-side binding incl. the re-binding of big ints) -/
def executeMany (style : Style) (c : List Char) (rows : List Args) : List (Fmt × Bool) :=
  cursorRun style (rows.map fun a => (c, a))

/-- the same parameter list bound again and again (the caller re-uses its dict / tuple / list object) -/
def rebind (style : Style) (c : List Char) (a : Args) (times : Nat) : List (Fmt × Bool) :=
  cursorRun style (List.replicate times (c, a))

/-! ## DuckDB reading a decimal literal into a FLOAT column -/

/-- DuckDB reads `123.456` as DECIMAL (mantissa 123456, scale 3) and casts it to DOUBLE by a division in
    double arithmetic — not by correctly rounding the decimal value (engine behaviour, trusted base) -/
def duckDecToDouble (m : Int) (scale : Nat) : Float := Float.ofInt m / Float.ofNat (10 ^ scale)

/-- mantissa and scale of a plain decimal `repr` (`-12.5` ↦ (-125, 1)); `none` for exponent forms, inf, nan -/
def decimalOfRepr (r : List Char) : Option (Int × Nat) :=
  let (neg, body) := match r with
    | '-' :: b => (true, b)
    | b => (false, b)
  if body.isEmpty || !body.all (fun c => c.isDigit || c = '.') || (body.filter (· = '.')).length > 1 then none
  else
    let intPart := body.takeWhile (· ≠ '.')
    let frac := (body.dropWhile (· ≠ '.')).drop 1
    let digits := intPart ++ frac
    match (String.ofList digits).toNat? with
    | some n => some (if neg then -(n : Int) else n, frac.length)
    | none => none

end Fs.Params
