/-
Model of fakesnow's transaction behaviour (property C13).

Two layers.

**Layer A – `Sys`** : the committed store plus one transaction state per *engine connection*, and
`step m s c st` = what one fakesnow statement `st`, executed on engine connection `c`, does and returns.
This is (i) the modelled DuckDB 1.0 MVCC behaviour as observed through fakesnow (DESIGN Appendix A.3,
trusted base, re-validated by the correspondence on every run):
  * `BEGIN` is lazy: the snapshot of the database is taken by the first later statement that binds
    against the database (a read, a write, *or a statement that fails with a Catalog/Binder error*);
    `SELECT 1` / `SET` do not pin it;
  * a pinned transaction reads `snapshot + own writes`, whatever other connections commit meanwhile;
  * `COMMIT` applies the write list to the committed store (valid for non-conflicting writers – the
    quantifier of C13; the harness keeps write sets disjoint per table);
  * a Catalog/Binder error leaves the transaction usable; a *run-time* error (Conversion, Constraint)
    and a nested `BEGIN` (TransactionException) **abort** it: every later statement fails (statements that
    already fail while binding keep their own error) until COMMIT/ROLLBACK, both of which then succeed and
    discard everything;
and (ii) fakesnow's own part, `cursor.py:249-268`: Binder/Catalog errors become Snowflake
ProgrammingErrors, "no transaction is active" becomes the success status row, everything else is raised raw.

`Mode.ideal` is the *specification* variant: a failing statement fails alone (statement-level rollback,
as Snowflake does) and a nested BEGIN is ignored, so no transaction is ever aborted.  `Mode.duck` is the code.

**Layer B – `World`** : `FakeSnow.connect()` hands every fake connection its own engine connection
(`instance.py:83` `self.duck_conn.cursor()`), `conn.cursor()` hands every fake cursor its connection's
engine connection (`conn.py:124-126`), `conn.commit()/rollback()` execute COMMIT/ROLLBACK on a new,
throw-away cursor of that connection (`conn.py:121-122,146-147`; the cursor is not reachable afterwards and is not given an id).  `World.step shared := true` is the mutant that hands the
instance's single (root) connection to every connection opened WITHOUT a database/schema argument (`Ev.connect false`);
with all connections opened that way it is the mutant that shares one engine connection among all.
-/
namespace Fs.Tx

abbrev Row := Nat × Nat
/-- contents of every table (table id ↦ rows in insertion order) -/
abbrev Store := Nat → List Row

inductive Dml
  | ins (k v : Nat)      -- INSERT INTO t VALUES (k, v)
  | del (k : Nat)        -- DELETE FROM t WHERE k = <k>
  | upd (k v : Nat)      -- UPDATE t SET v = <v> WHERE k = <k>
  | clr                  -- TRUNCATE TABLE t (transactional in DuckDB like any DML)
deriving DecidableEq, Repr

def Dml.app : Dml → List Row → List Row
  | .ins k v, rs => rs ++ [(k, v)]
  | .del k, rs => rs.filter fun r => r.1 != k
  | .upd k v, rs => rs.map fun r => if r.1 == k then (k, v) else r
  | .clr, _ => []

/-- affected-row count reported by the engine -/
def Dml.cnt : Dml → List Row → Nat
  | .ins _ _, _ => 1
  | .del k, rs => (rs.filter fun r => r.1 == k).length
  | .upd k _, rs => (rs.filter fun r => r.1 == k).length
  | .clr, rs => rs.length

structure W where
  tbl : Nat
  op : Dml
deriving DecidableEq, Repr

def Store.app (s : Store) (w : W) : Store := fun t => if t = w.tbl then w.op.app (s t) else s t
def Store.apps (s : Store) (ws : List W) : Store := ws.foldl Store.app s

inductive Tx
  | idle                                   -- autocommit
  | fresh                                  -- after BEGIN, snapshot not yet pinned
  | pinned (snap : Store) (ws : List W)    -- snapshot taken, own writes so far
  | aborted                                -- DuckDB: "Current transaction is aborted (please ROLLBACK)"

inductive Stmt
  | begin | commit | rollback
  | sel (t : Nat)                 -- SELECT k, v FROM t
  | dml (t : Nat) (op : Dml)
  | failBind (col : Bool)         -- missing table (false → 2003/42S02) or missing column (true → 2043/02000)
  | failRun                       -- run-time failure (conversion error on INSERT)
  | failMulti                     -- a statement fakesnow explodes into several engine statements (MERGE) whose second part
                                  -- fails while binding (clause names a missing column → 2043/02000): the first part
                                  -- (temporary candidates table) has no visible effect, the failure is a Binder error
  | touch                         -- a statement that binds against the database but changes no table rows and answers the
                                  -- status row (COMMENT ON TABLE …): pins a lazy snapshot, otherwise no effect here
  | const                         -- SELECT 1: touches no table
deriving DecidableEq, Repr

inductive Obs
  | empty                         -- zero rows (BEGIN, COMMIT/ROLLBACK ending a transaction)
  | status                        -- the row ('Statement executed successfully.',)
  | rows (l : List Row)
  | count (n : Nat)               -- DML status row
  | one                           -- result of SELECT 1
  | sfErr (col : Bool)            -- ProgrammingError 2003/42S02 (false) or 2043/02000 (true)
  | rawNested                     -- raw duckdb TransactionException (nested BEGIN)
  | rawRun                        -- raw duckdb ConversionException
  | rawAborted                    -- raw duckdb InvalidInputException (transaction is aborted)
  | ignored                       -- spec only: outcome of a nested BEGIN is not prescribed
deriving DecidableEq, Repr

inductive Mode | duck | ideal
deriving DecidableEq, Repr

/-- One statement against (committed store, this connection's transaction state). -/
def loc (m : Mode) (com : Store) : Tx → Stmt → Store × Tx × Obs
  -- autocommit
  | .idle, .begin => (com, .fresh, .empty)
  | .idle, .commit => (com, .idle, .status)
  | .idle, .rollback => (com, .idle, .status)
  | .idle, .sel t => (com, .idle, .rows (com t))
  | .idle, .dml t op => (com.app ⟨t, op⟩, .idle, .count (op.cnt (com t)))
  | .idle, .failBind b => (com, .idle, .sfErr b)
  | .idle, .failMulti => (com, .idle, .sfErr true)
  | .idle, .failRun => (com, .idle, .rawRun)
  | .idle, .const => (com, .idle, .one)
  | .idle, .touch => (com, .idle, .status)
  -- after BEGIN, nothing pinned yet
  | .fresh, .begin => match m with | .duck => (com, .aborted, .rawNested) | .ideal => (com, .fresh, .ignored)
  | .fresh, .commit => (com, .idle, .empty)
  | .fresh, .rollback => (com, .idle, .empty)
  | .fresh, .sel t => (com, .pinned com [], .rows (com t))
  | .fresh, .dml t op => (com, .pinned com [⟨t, op⟩], .count (op.cnt (com t)))
  | .fresh, .failBind b => (com, .pinned com [], .sfErr b)
  | .fresh, .failMulti => (com, .pinned com [], .sfErr true)
  | .fresh, .failRun => match m with | .duck => (com, .aborted, .rawRun) | .ideal => (com, .pinned com [], .rawRun)
  | .fresh, .const => (com, .fresh, .one)
  | .fresh, .touch => (com, .pinned com [], .status)
  -- pinned
  | .pinned s ws, .begin => match m with | .duck => (com, .aborted, .rawNested) | .ideal => (com, .pinned s ws, .ignored)
  | .pinned _ ws, .commit => (com.apps ws, .idle, .empty)
  | .pinned _ _, .rollback => (com, .idle, .empty)
  | .pinned s ws, .sel t => (com, .pinned s ws, .rows (s.apps ws t))
  | .pinned s ws, .dml t op => (com, .pinned s (ws ++ [⟨t, op⟩]), .count (op.cnt (s.apps ws t)))
  | .pinned s ws, .failBind b => (com, .pinned s ws, .sfErr b)
  | .pinned s ws, .failMulti => (com, .pinned s ws, .sfErr true)
  | .pinned s ws, .failRun => match m with | .duck => (com, .aborted, .rawRun) | .ideal => (com, .pinned s ws, .rawRun)
  | .pinned s ws, .const => (com, .pinned s ws, .one)
  | .pinned s ws, .touch => (com, .pinned s ws, .status)
  -- aborted (reachable in duck mode only)
  | .aborted, .commit => (com, .idle, .empty)
  | .aborted, .rollback => (com, .idle, .empty)
  | .aborted, .failBind b => (com, .aborted, .sfErr b)   -- bind-time errors are still raised as themselves
  | .aborted, .failRun => (com, .aborted, .rawRun)
  | .aborted, _ => (com, .aborted, .rawAborted)

structure Sys where
  com : Store
  tx : Nat → Tx

def Sys.setTx (s : Sys) (c : Nat) (t : Tx) (com : Store) : Sys :=
  { com := com, tx := fun d => if d = c then t else s.tx d }

def step (m : Mode) (s : Sys) (c : Nat) (st : Stmt) : Sys × Obs :=
  let r := loc m s.com (s.tx c) st
  (s.setTx c r.2.1 r.1, r.2.2)

/-- a history is a list of (engine connection, statement); `run` returns the final state and one
    observation per event -/
def run (m : Mode) (s : Sys) : List (Nat × Stmt) → Sys × List Obs
  | [] => (s, [])
  | (c, st) :: h =>
    let r := step m s c st
    let r' := run m r.1 h
    (r'.1, r.2 :: r'.2)

/-- what connection `c` would read now -/
def Sys.view (s : Sys) (c : Nat) : Store :=
  match s.tx c with
  | .pinned sn ws => sn.apps ws
  | _ => s.com

def Sys.init (com : Store) : Sys := { com := com, tx := fun _ => .idle }

/-- writes issued by `c` in a history (in order) -/
def writesOf (c : Nat) (h : List (Nat × Stmt)) : List W :=
  h.filterMap fun e => if e.1 = c then (match e.2 with | .dml t op => some ⟨t, op⟩ | _ => none) else none

/-- does statement `st` abort an open transaction in mode `m`? -/
def aborts : Mode → Stmt → Bool
  | .duck, .failRun => true
  | .duck, .begin => true
  | _, _ => false

def Stmt.endsTx : Stmt → Bool
  | .commit => true
  | .rollback => true
  | _ => false

/-- envelope (decidable, computed by the driver too): along the run no open transaction meets an aborting
    statement, i.e. the run never enters `Tx.aborted` -/
def envOk (s : Sys) : List (Nat × Stmt) → Bool
  | [] => true
  | (c, st) :: h =>
    (match s.tx c with
     | .idle => true
     | .aborted => false
     | _ => !aborts .duck st) && envOk (step .duck s c st).1 h

/-- finding classifier for a single step: which known defect region (if any) the step lies in -/
def findingKey (s : Sys) (c : Nat) (st : Stmt) : String :=
  match s.tx c, st with
  | .fresh, .begin => "C13/nested-begin-aborts-tx"
  | .pinned _ _, .begin => "C13/nested-begin-aborts-tx"
  | .fresh, .failRun => "C13/runtime-error-aborts-tx"
  | .pinned _ _, .failRun => "C13/runtime-error-aborts-tx"
  | _, _ => "-"

/-! ## Layer B: fake connections and cursors -/

inductive Ev
  | connect (named : Bool)           -- FakeSnow.connect(): a new fake connection, opened with (`named`) or without a
                                     -- database/schema argument – every connection gets its own engine connection either way
  | cursor (c : Nat) (foreign : Bool) -- conn.cursor() on fake connection c, called from the thread that opened the connection or
                                     -- (`foreign`) from another thread: the cursor uses the connection's engine connection either way
  | blockExit (c : Nat) (exc : Bool)  -- a `with conn:` / `with conn.cursor():` block of connection c ends, normally or by an
                                     -- exception: `__exit__` does nothing – no statement runs, no transaction ends
  | exec (k : Nat) (st : Stmt)       -- cursor k executes st
  | connCommit (c : Nat)             -- conn.commit()
  | connRollback (c : Nat)           -- conn.rollback()
deriving DecidableEq, Repr

structure World where
  sys : Sys
  /-- engine connection of fake connection i -/
  conns : List Nat
  /-- (fake connection, engine connection) of fake cursor k -/
  curs : List (Nat × Nat)
  /-- number of engine connections handed out so far by `duck_conn.cursor()` -/
  next : Nat

/-- engine connection id used by the mutant that shares the instance connection; never handed out by
    the real `connect` (ids handed out are 0,1,2,…, all `< next`) -/
def sharedId : Nat := 1000000

def World.init (com : Store) : World := { sys := Sys.init com, conns := [], curs := [], next := 0 }

/-- `none` = the event is bookkeeping only (connect, cursor creation, unknown id): no statement runs -/
def World.step (shared : Bool) (m : Mode) (w : World) : Ev → World × Option Obs
  | .connect named =>
    if shared && !named then ({ w with conns := w.conns ++ [sharedId] }, none)
    else ({ w with conns := w.conns ++ [w.next], next := w.next + 1 }, none)
  | .blockExit _ _ => (w, none)
  | .cursor c _ =>
    match w.conns[c]? with
    | none => (w, none)
    | some d => ({ w with curs := w.curs ++ [(c, d)] }, none)
  | .exec k st =>
    match w.curs[k]? with
    | none => (w, none)
    | some (_, d) => let r := Fs.Tx.step m w.sys d st; ({ w with sys := r.1 }, some r.2)
  | .connCommit c =>
    match w.conns[c]? with
    | none => (w, none)
    | some d => let r := Fs.Tx.step m w.sys d .commit; ({ w with sys := r.1 }, some r.2)
  | .connRollback c =>
    match w.conns[c]? with
    | none => (w, none)
    | some d => let r := Fs.Tx.step m w.sys d .rollback; ({ w with sys := r.1 }, some r.2)

def World.run (shared : Bool) (m : Mode) (w : World) : List Ev → World × List (Option Obs)
  | [] => (w, [])
  | e :: es =>
    let r := World.step shared m w e
    let r' := World.run shared m r.1 es
    (r'.1, r.2 :: r'.2)

/-- The abstract reading of an event: which *fake connection* issues which statement (cursor ↦ its
    connection is pure bookkeeping: `cursorConn` below never looks at engine ids). -/
structure Book where
  nconns : Nat
  cursConn : List Nat     -- fake connection of cursor k

def Book.step (b : Book) : Ev → Book × Option (Nat × Stmt)
  | .connect _ => ({ b with nconns := b.nconns + 1 }, none)
  | .blockExit _ _ => (b, none)
  | .cursor c _ => if c < b.nconns then ({ b with cursConn := b.cursConn ++ [c] }, none) else (b, none)
  | .exec k st => (b, b.cursConn[k]?.map fun c => (c, st))
  | .connCommit c => if c < b.nconns then (b, some (c, .commit)) else (b, none)
  | .connRollback c => if c < b.nconns then (b, some (c, .rollback)) else (b, none)

/-- the (fake connection, statement) trace of an event list -/
def Book.trace (b : Book) : List Ev → List (Nat × Stmt)
  | [] => []
  | e :: es =>
    let r := b.step e
    match r.2 with
    | none => Book.trace r.1 es
    | some x => x :: Book.trace r.1 es

end Fs.Tx
