import Fs.Proofs.Fold
import Fs.Proofs.StrLit
/-!
# C02 — unquoted identifiers fold to upper case; quoted ones are kept verbatim

`Fs.Fold.canon` is the model of what fakesnow does to a parsed statement before anything else looks at it (`upper_case_unquoted_identifiers`, `cursor.py:157`, plus the `.upper()`
calls on the keyword text it keeps: `expr.key_command`, `checks.py`, `set_schema`, `create_database`, …); `CaseEq`
relates two spellings of one statement.  What is *proved* is fakesnow's own part: after `canon` nothing of the
spelling is left, so every later stage — as any function of the folded tree and the state — yields the same outcome,
and the names it reports are the folded names.  (The MERGE `THEN` keyword is among the folded keywords: the model follows /repo
commit 9db44bc, the repair of `C02/merge-delete-lowercase`.)  That sqlglot builds the same tree for both spellings and that DuckDB
matches names case-insensitively is trusted and exercised by the twin-run correspondence (`harness/props/c02.py`).
-/
namespace Fs.C02
open Fs.Fold

/-- **Case invariance** (full): two spellings of a statement — keywords and unquoted identifiers in any letter case,
    quoted identifiers and literals identical — fold to the same tree. -/
theorem C02_case_invariant (a b : Node) (h : CaseEq a b) : canon a = canon b :=
  canon_caseEq a b h

/-- **Therefore the complete outcome is invariant**: whatever the rest of the pipeline and the engine do — any
    function `rest` of the folded statement and the state `σ` producing any outcome (rows, column names, rowcount,
    status text, error, new state) — both spellings give the same outcome. -/
theorem C02_outcome_invariant {σ ω : Type} (rest : Node → σ → ω) (a b : Node) (h : CaseEq a b) (s : σ) :
    rest (canon a) s = rest (canon b) s := by
  rw [canon_caseEq a b h]

/-- the MERGE THEN keyword is recognised in every spelling -/
theorem C02_merge_then_invariant (a b : List Char) (h : upper a = upper b) : thenIsDelete a = thenIsDelete b := by
  unfold thenIsDelete; rw [h]

/-- `… WHEN MATCHED THEN delete` vs `… THEN DELETE` -/
def mergeLower : Node := .node 7 [.ident ⟨"t".toList, false⟩, .kwFolded "delete".toList]
def mergeUpper : Node := .node 7 [.ident ⟨"T".toList, false⟩, .kwFolded "DELETE".toList]

/-- Regression witness for the repaired defect `C02/merge-delete-lowercase`: the two MERGE spellings are `CaseEq`
    and are recognised alike, whereas the comparison before the repair (`== "DELETE"` on the text as written)
    rejected the lower-case spelling (→ AssertionError). -/
theorem C02_old_merge_then_case_sensitive :
    CaseEq mergeLower mergeUpper ∧ canon mergeLower = canon mergeUpper ∧
    thenIsDelete "delete".toList = thenIsDelete "DELETE".toList ∧
    thenIsDeleteOld "delete".toList = false ∧ thenIsDeleteOld "DELETE".toList = true := by
  have ht : upper "t".toList = upper "T".toList := by string_lits; decide +kernel
  have hd : upper "delete".toList = upper "DELETE".toList := by string_lits; decide +kernel
  have h : CaseEq mergeLower mergeUpper := ⟨rfl, ⟨rfl, ht⟩, hd, trivial⟩
  refine ⟨h, canon_caseEq _ _ h, C02_merge_then_invariant _ _ hd, ?_⟩
  unfold thenIsDeleteOld; string_lits; decide +kernel

/-- folding is a normal form: a second pass changes nothing (the tree handed on is already "as Snowflake names it") -/
theorem C02_canon_idempotent (n : Node) : canon (canon n) = canon n := canon_idem n

/-- **Reported in upper case**: the name of an unquoted identifier is its upper-cased text, contains no lower-case
    ASCII letter, and does not depend on how it was spelled. -/
theorem C02_reported_upper (raw raw' : List Char) (h : upper raw = upper raw') :
    (⟨raw, false⟩ : Ident).norm = upper raw ∧ (⟨raw, false⟩ : Ident).norm = (⟨raw', false⟩ : Ident).norm ∧
    ∀ c ∈ (⟨raw, false⟩ : Ident).norm, ¬ (97 ≤ c.toNat ∧ c.toNat ≤ 122) :=
  ⟨rfl, h, upper_no_lower raw⟩

/-- **Quoted identifiers are reported exactly as written.** -/
theorem C02_quoted_verbatim (raw : List Char) : (⟨raw, true⟩ : Ident).norm = raw := rfl

/-- **Quoted and unquoted naming of the same object**: `"ABC"` and `abc` (any case) are the same name, and
    `checks.equal` says so; a quoted name that is not the upper-cased text is a different name. -/
theorem C02_same_object (raw : List Char) :
    (⟨upper raw, true⟩ : Ident).norm = (⟨raw, false⟩ : Ident).norm ∧
    Ident.equal ⟨upper raw, true⟩ ⟨raw, false⟩ = true ∧
    ∀ q : List Char, Ident.equal ⟨q, true⟩ ⟨raw, false⟩ = true ↔ q = upper raw :=
  ⟨rfl, beq_self_eq_true (upper raw), fun _ => beq_iff_eq⟩

/-- **Status messages** (`cursor.py:304-319`): the object name in "… successfully created/dropped" is the folded name
    of the statement's first identifier — upper-cased if unquoted, verbatim if quoted — for every statement shape. -/
theorem C02_status_name (n : Node) : statusName n = (firstIdent n).map Ident.norm := by
  -- the function `statusName` maps over the identifier is `Ident.norm` written out
  show (firstIdent (canon n)).map Ident.norm = _
  rw [firstIdent_canon, Option.map_map]
  exact congrArg (Option.map · _) (funext norm_canon)

/-- …and it is the same for two spellings of the statement. -/
theorem C02_status_name_invariant (a b : Node) (h : CaseEq a b) : statusName a = statusName b := by
  unfold statusName; rw [canon_caseEq a b h]

/-- **Keyword text kept in the tree** (`kind` of CREATE/DROP/DESCRIBE, the USE kind): the code upper-cases it
    before every comparison, so the decision is the same for every spelling. -/
theorem C02_kind_invariant (a b : List Char) (h : upper a = upper b) (k : String) : kindIs a k = kindIs b k := by
  unfold kindIs; rw [h]

/-- **Lookup, partial**: when no stored name differs from the referenced (folded) name only by letter case, the
    engine's case-insensitive lookup finds exactly what Snowflake's exact lookup finds and reports the same name. -/
theorem C02_lookup_partial (stored : List (List Char)) (i : Ident)
    (henv : ∀ n ∈ stored, upper n = upper i.norm → n = i.norm) : duckFind stored i.norm = sfFind stored i.norm :=
  find_agree stored i.norm henv

/-- outside that envelope (finding `C02/quoted-name-matched-case-insensitively`): a column created as `"abc"` is found
    by the unquoted reference `ABC` and reported as `abc`, where Snowflake knows no such column -/
theorem finding_C02_quoted_name_matched_case_insensitively :
    duckFind ["abc".toList] (⟨"ABC".toList, false⟩ : Ident).norm = some "abc".toList ∧
    sfFind ["abc".toList] (⟨"ABC".toList, false⟩ : Ident).norm = none := by string_lits; decide +kernel

/-- **Session variables, partial**: for unquoted variable names SET and UNSET/`$name` agree on the key, whatever
    the spelling. -/
theorem C02_variable_key_partial (raw raw' : List Char) (h : upper raw = upper raw') :
    setKey ⟨raw, false⟩ = unsetKey ⟨raw', false⟩ :=
  h  -- by definition the two keys are `upper raw` and `upper raw'`

/-- finding `C02/quoted-variable-name`: `SET "V" = 1` stores the name with its quotes, so `UNSET v` / `$v` — the same
    object by the folding rule — do not find it -/
theorem finding_C02_quoted_variable_name :
    (⟨"V".toList, true⟩ : Ident).norm = (⟨"v".toList, false⟩ : Ident).norm ∧
    setKey ⟨"V".toList, true⟩ ≠ unsetKey ⟨"v".toList, false⟩ := by string_lits; decide +kernel

/-- **Raw-text commands** (`ALTER TABLE … MODIFY COLUMN … SET TAG …`, which sqlglot hands over unparsed): the code
    looks for its keywords in the upper-cased text, so the decision is the same for every spelling — whereas a
    case-sensitive search on the text as written would separate `set tag` from `SET TAG`. -/
theorem C02_raw_command_invariant (a b : List Char) (h : upper a = upper b) : rawHasSetTag a = rawHasSetTag b := by
  unfold rawHasSetTag; rw [h]

/-- witness for the last clause: the two spellings of such a command upper-case alike, the code's search finds `SET TAG` in
    the lower-case one, a case-sensitive search only in the upper-case one -/
theorem C02_raw_command_case_sensitive_differs :
    upper "modify column c set tag t = 'v'".toList = upper "MODIFY COLUMN C SET TAG T = 'V'".toList ∧
    rawHasSetTag "modify column c set tag t = 'v'".toList = true ∧
    rawHasSetTagCaseSensitive "modify column c set tag t = 'v'".toList = false ∧
    rawHasSetTagCaseSensitive "MODIFY COLUMN C SET TAG T = 'V'".toList = true := by
  string_lits; decide +kernel

/-- **Identifiers compared inside one statement** (a select alias used in JOIN … ON): the lookup is by folded name, so
    every spelling of the reference — any letter case, or the quoted upper-case form — finds the same alias. -/
theorem C02_alias_lookup_invariant (aliases : List Ident) (a b : Ident) (h : a.norm = b.norm) :
    aliasFind aliases a = aliasFind aliases b := by
  unfold aliasFind; rw [h]

/-- regression witness of the repaired defect `C02/join-alias-quoted`: a lookup by identifier node does not find the alias
    `"SID"` for the reference `sid`, although both name the same column -/
theorem C02_old_alias_lookup_by_node :
    (⟨"SID".toList, true⟩ : Ident).norm = (⟨"sid".toList, false⟩ : Ident).norm ∧
    aliasFindByNode [⟨"SID".toList, true⟩] ⟨"sid".toList, false⟩ = none ∧
    aliasFind [⟨"SID".toList, true⟩] ⟨"sid".toList, false⟩ = some ⟨"SID".toList, true⟩ := by string_lits; decide +kernel

/-- **Names given through `IDENTIFIER('…')`**: the transform runs before the fold (the repair
    `C02/identifier-function-not-folded`), so the identifier it yields is an unquoted identifier like any other.  The transform
    and its place in the pipeline are not modelled; what is stated is the fold of such an identifier: the folded node does not
    depend on the letter case of the literal, `customers` becomes `CUSTOMERS`, and the text as written — the name the object was
    stored under before the repair — is not that name. -/
theorem C02_identifier_function_folded (lit lit' : List Char) (h : upper lit = upper lit') :
    canon (.ident ⟨lit, false⟩) = canon (.ident ⟨lit', false⟩) ∧
    canon (.ident ⟨"customers".toList, false⟩) = .ident ⟨"CUSTOMERS".toList, false⟩ ∧
    (⟨"customers".toList, false⟩ : Ident).raw ≠ (⟨"customers".toList, false⟩ : Ident).norm := by
  string_lits
  -- `Node` has no `DecidableEq` (it is nested), so the second equation is taken down to one between `List Char`s
  exact ⟨canon_caseEq _ _ ⟨rfl, h⟩, congrArg (fun r => Node.ident ⟨r, false⟩) (by decide +kernel), by decide +kernel⟩

def stmtA : Node := .node 1 [.kwFolded "schema".toList, .node 2 [.ident ⟨"db1".toList, false⟩, .ident ⟨"My S".toList, true⟩], .lit "x".toList]
def stmtB : Node := .node 1 [.kwFolded "SCHEMA".toList, .node 2 [.ident ⟨"Db1".toList, false⟩, .ident ⟨"My S".toList, true⟩], .lit "x".toList]
example : CaseEq stmtA stmtB :=
  have hk : upper "schema".toList = upper "SCHEMA".toList := by string_lits; decide +kernel
  have hd : upper "db1".toList = upper "Db1".toList := by string_lits; decide +kernel
  ⟨rfl, hk, ⟨rfl, ⟨rfl, hd⟩, ⟨rfl, rfl⟩, trivial⟩, rfl, trivial⟩
example : statusName stmtA = some "DB1".toList := by string_lits; decide +kernel
example : (⟨"Abc_1$".toList, false⟩ : Ident).norm = "ABC_1$".toList := by string_lits; decide +kernel

end Fs.C02
