import Fs.Proofs.Rewrite
import Fs.Proofs.StrLit
/-!
# C10 — rewritten Snowflake functions return what Snowflake documents  (partial)

There is no Snowflake here: the oracle is the documented semantics as transcribed (`*Spec`).  The theorems cover
fakesnow's OWN part of each construct — index arithmetic, argument assignment, defaults, result-type decisions,
which forms are answered and which are passed on to be rejected, and that a node-local rewrite acts the same in
every context.  The functions' values (RE2 matching, calendar arithmetic, SHA-256, decimal parsing) are DuckDB's
and are only compared differentially by `harness/props/c10.py`.
-/
namespace Fs.C10
open Fs.Rewrite Fs.Json

/-- the full statement: for every matcher, subject and literal arguments in the documented domain -/
def C10_regexp_substr_Full : Prop :=
  ∀ {M : Type} (extractAll : List Char → Nat → List M) (subject : List Char) (a : RxArgs),
    a.inDomain = true → rxImpl extractAll subject a = rxSpec extractAll subject a

/-- **Index arithmetic of the REGEXP_SUBSTR rewrite**: slicing the subject at `position`, asking DuckDB for all
    matches of the chosen group and subscripting with the literal `occurrence - 1` (which sqlglot prints as
    `[occurrence]`, 1-based) is the `occurrence`-th match from `position` — and NULL when there are fewer matches;
    defaults: position 1, occurrence 1, group 0.  Envelope: not (`e` parameter without a group). -/
theorem C10_regexp_substr_index_partial {M : Type} (extractAll : List Char → Nat → List M) (subject : List Char)
    (a : RxArgs) (hd : a.inDomain = true) (hok : a.ok = true) :
    rxImpl extractAll subject a = rxSpec extractAll subject a := by
  rw [rxImpl_eq hd, rxSpec]
  cases hg : a.group with
  | some g => rfl
  | none =>
    have he : (a.params.getD []).contains 'e' = false := by simpa [RxArgs.ok, hg] using hok
    rw [he]; rfl

example : (RxArgs.inDomain { position := some 5, occurrence := some 2, params := some ['i'], group := none }) = true ∧
    (RxArgs.ok { position := some 5, occurrence := some 2, params := some ['i'], group := none }) = true := ⟨rfl, rfl⟩

/-- C10/regexp-substr-e-default-group — with the `e` parameter and no group Snowflake returns sub-match 1; the code
    tests for `e` after removing it, so group 0 (the whole match) is returned -/
theorem finding_regexp_substr_e_default_group :
    let a : RxArgs := { params := some ['e'] }
    let ex : List Char → Nat → List Nat := fun _ g => [g]
    rxImpl ex [] a = some 0 ∧ rxSpec ex [] a = some 1 := by decide

theorem C10_regexp_substr_full_false : ¬ C10_regexp_substr_Full := fun h =>
  have f := finding_regexp_substr_e_default_group
  nomatch f.1.symm.trans ((h _ _ _ rfl).trans f.2)

/-- **REGEXP_REPLACE is answered only in the form whose documented meaning is "replace every match"**: for a literal
    or `$$…$$` pattern (the latter is made a literal by `dollar_quoted_string`, which runs before), the rewrite adds
    the global flag exactly when no position/occurrence/parameters argument was given — then the documented defaults
    (position 1, occurrence 0 = all) make "every match" the documented result, with replacement defaulting to '' —
    and every call that gives one of them is rejected, whatever its value. -/
theorem C10_regexp_replace (p : StrNode) (hp : p ≠ .expr) (a : RrArgs)
    (hpos : (a.position.isSome ∨ a.occurrence.isSome ∨ a.params.isSome) → a.hasReplacement = true) :   -- arguments are positional
    (∀ d, rrRule (dollarQuotedString p) a = .rewritten d →
        a.position = none ∧ a.occurrence = none ∧ a.params = none ∧ a.docIsReplaceAll = true ∧ d = !a.hasReplacement) ∧
    ((a.position.isSome ∨ a.occurrence.isSome ∨ a.params.isSome) → rrRule (dollarQuotedString p) a = .rejected) := by
  rw [dollarQuotedString_of_ne_expr hp, rrRule_lit]
  by_cases hany : a.position.isSome ∨ a.occurrence.isSome ∨ a.params.isSome
  · rw [if_pos ((a.count_gt_three hpos).2 hany)]
    exact ⟨fun d h => (nomatch h), fun _ => rfl⟩
  · rw [if_neg (mt (a.count_gt_three hpos).1 hany)]
    refine ⟨fun d h => ?_, fun h => absurd h hany⟩
    simp only [not_or, Option.not_isSome_iff_eq_none] at hany
    obtain ⟨h1, h2, h3⟩ := hany
    exact ⟨h1, h2, h3, by simp [RrArgs.docIsReplaceAll, h1, h2, h3], (RrOut.rewritten.inj h).symm⟩

example : rrRule (dollarQuotedString .raw) { hasReplacement := true } = .rewritten false := by decide

/-- **Order constraint**: were `dollar_quoted_string` to run AFTER `regex_replace`, a `$$…$$` pattern would not be
    a literal yet, the rewrite would be skipped and DuckDB would replace only the first match -/
theorem C10_dollar_order : rrRule .raw { hasReplacement := true } = .untouched ∧
    rrRule (dollarQuotedString .raw) { hasReplacement := true } = .rewritten false := by decide

/-- C10/regexp-pattern-backslash-unescaped-twice — the regex `\\` (one literal backslash; `$$\\$$`, or `'\\\\'` in a
    single-quoted constant) reaches DuckDB as a lone `\`: the rewrite un-escapes text the tokenizer already un-escaped;
    patterns without a doubled backslash are unchanged -/
theorem finding_regexp_pattern_unescaped_twice :
    unescapeBackslashes ['\\', '\\'] = ['\\'] ∧ unescapeBackslashes ['\\', 'd', '+'] = ['\\', 'd', '+'] := ⟨rfl, rfl⟩

/-- **Overload assignment**: for every argument list Snowflake has an overload for, `_get_to_number_args` applied
    to the slots sqlglot fills positionally yields exactly that overload's (format, precision, scale) -/
theorem C10_to_number_args (args : List NArg) (ov : Option NArg × Option NArg × Option NArg)
    (h : toNumberOverload args = some ov) :
    getToNumberArgs (slots args).1 (slots args).2.1 (slots args).2.2 = ov := by
  revert h
  -- one goal per row of `toNumberOverload`; in the last, `h : none = some ov`
  fun_cases toNumberOverload args <;> intro h <;> cases h <;> rfl

/-- … for all 3³ presence/kind patterns of the three slots the function is total and never invents an argument:
    whatever it returns as precision/scale is one of the given slots -/
theorem C10_to_number_args_total (f p s : Option NArg) :
    let r := getToNumberArgs f p s
    (r.2.1 = none ∨ r.2.1 = f ∨ r.2.1 = p) ∧ (r.2.2 = none ∨ r.2.2 = p ∨ r.2.2 = s) ∧ (r.1 = none ∨ r.1 = f) := by
  fun_cases getToNumberArgs f p s <;> simp

/-- **Result type, default DECIMAL(38,0)**: TO_NUMBER and TO_DECIMAL/TO_NUMERIC/TRY_TO_* (two code paths) give the
    documented type for every supported argument list, and reject the format overloads -/
theorem C10_decimal_type (args : List NArg) (out : NumOut) (h : toNumberSpec args = some out) :
    toNumberRule (slots args).1 (slots args).2.1 (slots args).2.2 = out ∧ toDecimalAnonRule args = out := by
  obtain ⟨ov, hov, hout⟩ := Option.map_eq_some_iff.1 h
  have h1 : toNumberRule (slots args).1 (slots args).2.1 (slots args).2.2 = out := by
    rw [toNumberRule, C10_to_number_args args ov hov]; exact hout
  exact ⟨h1, (toDecimalAnonRule_eq_toNumberRule args).trans h1⟩

theorem C10_decimal_default : toNumberRule none none none = .decimal (.num 38) (.num 0) ∧
    toDecimalAnonRule [] = .decimal (.num 38) (.num 0) := ⟨rfl, rfl⟩

/-- C10/to-number-numeric-truncates — documented rounding is half away from zero; DuckDB's DECIMAL → DECIMAL cast
    (a numeric, not string, first argument) truncates: 12.345 → 12.34 -/
theorem finding_to_number_numeric_truncates : roundHalfAway 12345 10 = 1235 ∧ truncDiv 12345 10 = 1234 ∧
    roundHalfAway (-25) 10 = -3 ∧ truncDiv (-25) 10 = -2 := by decide

/-- C10/to-number-round-overflow — '99.995' as DECIMAL(4,2): the truncated mantissa fits 4 digits, the rounded one
    (10000) does not; DuckDB checks before rounding and returns 100.00 -/
theorem finding_to_number_round_overflow :
    fitsDigits (truncDiv 99995 10) 4 = true ∧ fitsDigits (roundHalfAway 99995 10) 4 = false := by decide

/-- **The reported result type is the computed one**: for ALL precisions and scales, the (precision, scale) that
    `cursor.description` reads back from DuckDB's type text `DECIMAL(p,s)` is (p, s) — with the type decision above:
    TO_NUMBER/TO_DECIMAL/TO_NUMERIC(x, p, s) report NUMBER(p, s) for every scale, not only one-digit ones -/
theorem C10_decimal_description (p s : Nat) : parseDecimalType (renderDecimalType p s) = (p, s) := by
  unfold renderDecimalType
  rw [List.append_assoc, parseDecimalType_digits (natDigits_all p) (natDigits_all s),
    digitsVal_natDigits, digitsVal_natDigits]

/-- a reader that only accepts a one-digit scale reports NUMBER(38,0) for DECIMAL(20,10) -/
theorem C10_decimal_description_two_digit_scale :
    parseDecimalType (renderDecimalType 20 10) = (20, 10) ∧ parseDecimalTypeOneDigitScale (renderDecimalType 20 10) = (38, 0) :=
  ⟨C10_decimal_description 20 10, by rw [parseDecimalTypeOneDigitScale, C10_decimal_description]; rfl⟩

/-- **TO_TIMESTAMP of an integer is a TIMESTAMP_NTZ for every scale**: the cast fakesnow adds makes the result
    naive whatever function sqlglot chose; without the cast it is naive only for scales 3 and 6 -/
theorem C10_to_timestamp_type (scale : Option Nat) :
    toTimestampTzAware true scale = false ∧
    (toTimestampTzAware false scale = true ↔ (scale.isSome ∧ scale ≠ some 3 ∧ scale ≠ some 6)) := by
  cases scale <;> simp [toTimestampTzAware, unixToTimeFn_tzAware]

/-- C10/to-timestamp-float-tz-aware — a float argument is not an `exp.UnixToTime`, gets no cast, and DuckDB's
    to_timestamp is TIMESTAMP WITH TIME ZONE -/
theorem finding_to_timestamp_float : TsFn.toTimestamp.tzAware = true := rfl

/-- **NUMBER(p) keeps its precision**: only the parameter-less type becomes BIGINT; NUMBER(p) is DECIMAL(p,0) — a
    value of p+1 digits does not fit (rejected; NULL for TRY_CAST), one of p digits does -/
theorem C10_number_one_parameter (p : Nat) (hp : 1 ≤ p) :
    integerPrecision [p] = .decimal p 0 ∧ (integerPrecision [p]).fitsIntDigits p = true ∧
    (integerPrecision [p]).fitsIntDigits (p + 1) = false ∧ integerPrecision [] = .bigint := by
  simp [integerPrecision, NumType.fitsIntDigits]

def C10_dateadd_type_Full : Prop := ∀ u s, dateaddImpl u s = dateaddSpec u s

/-- **DATEADD result type**: DATE iff the input is a date and the unit is a day or larger — for inputs written as a
    cast to DATE (or TO_DATE) and every unit but QUARTER, and for timestamp / string-literal inputs with every unit -/
theorem C10_dateadd_type_partial (u : DUnit) (s : DShape) (h : s ≠ .dateExpr ∧ ¬ (u = .quarter ∧ s = .castDate)) :
    dateaddImpl u s = dateaddSpec u s := by
  obtain ⟨h1, h2⟩ := h
  simp only [dateaddImpl, dateaddSpec, DUnit.dayOrLarger_eq, h1, decide_false, Bool.or_false]
  by_cases hs : s = .castDate
  · have hq : u ≠ .quarter := fun hq => h2 ⟨hq, hs⟩
    simp only [hq, decide_false, Bool.or_false]
  · simp only [hs, decide_false, Bool.false_and]

example : (DShape.castDate ≠ .dateExpr ∧ ¬ (DUnit.month = .quarter ∧ DShape.castDate = .castDate)) := by decide

/-- C10/dateadd-quarter, C10/dateadd-date-expression — QUARTER is not in the unit list, and only a syntactic cast
    is recognised as a DATE (a DATE column, CURRENT_DATE, a nested DATEADD are not): TIMESTAMP instead of DATE -/
theorem finding_dateadd_type :
    dateaddImpl .quarter .castDate = .timestamp ∧ dateaddSpec .quarter .castDate = .date ∧
    dateaddImpl .day .dateExpr = .timestamp ∧ dateaddSpec .day .dateExpr = .date := by decide

theorem C10_dateadd_type_full_false : ¬ C10_dateadd_type_Full := fun h =>
  nomatch finding_dateadd_type.1.symm.trans ((h _ _).trans finding_dateadd_type.2.1)

/-- **EQUAL_NULL = IS NOT DISTINCT FROM**, for every type and all values incl. NULL -/
theorem C10_equal_null {α} [DecidableEq α] (a b : Option α) : isNotDistinct a b = equalNullSpec a b := by
  cases a <;> cases b <;> simp [isNotDistinct, equalNullSpec]

/-- C10/equal-null-created-database — the macro exists only in databases created by connect() -/
theorem finding_equal_null_created_database : equalNullAvailable .connect = true ∧ equalNullAvailable .createStatement = false :=
  ⟨rfl, rfl⟩

/-- **VALUES column names**: `COLUMN1 … COLUMNn`, 1-based, one per column of the first row, pairwise distinct;
    only for an un-aliased VALUES under a SELECT -/
theorem C10_values_names (n : Nat) :
    (valuesColumns n).length = n ∧
    (∀ i, i < n → (valuesColumns n)[i]? = some ("COLUMN".toList ++ natDigits (i + 1))) ∧
    (∀ i j, i < n → j < n → (valuesColumns n)[i]? = (valuesColumns n)[j]? → i = j) ∧
    valuesRule true false n = some (valuesColumns n) ∧ valuesRule false false n = none ∧ valuesRule true true n = none := by
  refine ⟨?_, fun i hi => valuesColumns_getElem? hi, fun i j hi hj h => ?_, rfl, rfl, rfl⟩
  · rw [valuesColumns, List.length_map, List.length_range]
  · rw [valuesColumns_getElem? hi, valuesColumns_getElem? hj] at h
    exact columnName_inj (Option.some.inj h)

/-- **Seed mapping** `seed ↦ seed/2147483647 − 0.5`: injective, and inside `setseed`'s domain [-1, 1] exactly for
    −1073741823 ≤ seed ≤ 3221225470 (so for every non-negative int32 seed) -/
theorem C10_random_seed (s s' : Int) :
    (seedNum s = seedNum s' → s = s') ∧
    (seedInDomain s = true ↔ (-1073741823 ≤ s ∧ s ≤ 3221225470)) := by
  simp only [seedInDomain, Bool.and_eq_true, decide_eq_true_eq]
  unfold seedNum seedDen int32Max
  omega

def C10_random_Full : Prop := ∀ calls, (randomImpl calls).rewritten = randomSpecRewritten calls

/-- **Every RANDOM call becomes a 64-bit integer** — when the SELECT contains at most one; and a literal seed is the
    seed handed to `setseed` -/
theorem C10_random_partial (calls : List RandArg) (h : calls.length ≤ 1) :
    (randomImpl calls).rewritten = randomSpecRewritten calls ∧
    (∀ n, calls = [.lit n] → (randomImpl calls).seed = some n) :=
  ⟨(randomImpl_rewritten_eq_spec_iff calls).2 h, fun n hn => by rw [hn]; rfl⟩

/-- C10/random-twice, C10/random-negative-seed — only the first RANDOM of a SELECT is rewritten (the second reaches
    DuckDB as `RANDOM(1)`: BinderException); a negative seed is not a literal node and is silently ignored -/
theorem finding_random :
    (randomImpl [.lit 1, .lit 1]).rewritten = [true, false] ∧ randomSpecRewritten [.lit 1, .lit 1] = [true, true] ∧
    (randomImpl [.other]).seed = none := ⟨rfl, rfl, rfl⟩

/-- C10/random-nested-select — directly under one SELECT the call is wrapped once; in a CTE/subquery twice -/
theorem finding_random_nested_select : randomWraps 1 = 1 ∧ randomWraps 2 = 2 := ⟨rfl, rfl⟩

theorem C10_random_full_false : ¬ C10_random_Full := fun h =>
  absurd ((randomImpl_rewritten_eq_spec_iff [.lit 1, .lit 1]).1 (h _)) (by decide)

/-- **SHA2 length handling**: an answer is only ever a 256-bit digest, given exactly when the requested length is
    256 (or defaulted) — hex for SHA2/SHA2_HEX, bytes for SHA2_BINARY; every other length is passed on untouched
    (DuckDB has no such function: rejected, not answered wrongly) -/
theorem C10_sha2 (fn : ShaFn) (len : Option Nat) :
    ((sha2Rule fn len).bits = some 256 ↔ len.getD 256 = 256) ∧
    (len.getD 256 ≠ 256 → sha2Rule fn len = .passedOn) ∧
    (len.getD 256 = 256 → sha2Rule fn len = (if fn = .sha2Binary then .bin256 else .hex256)) := by
  fun_cases sha2Rule fn len <;> simp_all [ShaOut.bits]

/-- **Every join is decided on its own**: for every alias set and every join list, the i-th join's ON is rewritten
    iff IT names a select alias as a bare left operand — independent of what the other joins look like (no ON,
    USING, compound, parenthesised), before or after it -/
theorem C10_alias_in_join (aliases : List Nat) (js : List JoinOn) :
    (aliasInJoin aliases js).length = js.length ∧
    ∀ i : Nat, (aliasInJoin aliases js)[i]? = (js[i]?).map (rewriteJoin aliases) := by
  rw [aliasInJoin_eq_map]
  exact ⟨List.length_map _, fun _ => List.getElem?_map⟩

/-- a loop that leaves at the first join with nothing to substitute misses every later join -/
theorem C10_alias_in_join_no_break :
    aliasInJoin [1] [.noOn, .aliasLeft 1] = [false, true] ∧ aliasInJoinBreak [1] [.noOn, .aliasLeft 1] = [false, false] ∧
    aliasInJoin [1] [.other, .aliasLeft 1, .aliasLeft 2] = [false, true, false] := ⟨rfl, rfl, rfl⟩

/-- ARRAY_AGG collects the non-NULL inputs — when there is at least one -/
theorem C10_array_agg_partial (xs : List (Option Int)) (h : xs.filterMap id ≠ []) : arrayAggImpl xs = arrayAggSpec xs :=
  if_neg (mt List.isEmpty_iff.1 h)

/-- C10/array-agg-empty-null — over no (non-NULL) rows the result is NULL, documented an empty ARRAY -/
theorem finding_array_agg_empty : arrayAggImpl [none] = none ∧ arrayAggSpec [none] = some [] := by decide

/-- C10/array-agg-within-group-keeps-nulls — the WITHIN GROUP rewrite has no NULL filter: NULL inputs appear in the
    ARRAY (documented: omitted) -/
theorem finding_array_agg_within_group_nulls :
    arrayAggWithinImpl [some 1, none] = [some 1, none] ∧ arrayAggSpec [some 1, none] = some [1] := ⟨rfl, rfl⟩

/-- boundary counting is additive and antisymmetric: DATEDIFF(u, a, c) = DATEDIFF(u, a, b) + DATEDIFF(u, b, c),
    DATEDIFF(u, a, b) = −DATEDIFF(u, b, a), DATEDIFF(u, a, a) = 0 — the relations the tie checks on DuckDB's `date_diff` -/
theorem C10_datediff_additive (u : DUnit) (a b c : Int × Int) :
    dateDiffYM u a c = dateDiffYM u a b + dateDiffYM u b c ∧ dateDiffYM u a b = -dateDiffYM u b a ∧ dateDiffYM u a a = 0 := by
  unfold dateDiffYM
  exact ⟨by omega, (Int.neg_sub _ _).symm, Int.sub_self _⟩

/-- C10/sha2-nonliteral-size-answered — two instances of `C10_sha2`, the rule for a size written as a bare number literal
    (`Option Nat`), which is all the model of `sha256` speaks about.  The finding itself is outside it: a size written as any other
    expression (`-256`, `256 - 512`) reaches sqlglot's own SHA2 rendering, which answers with the 256-bit digest; the check
    classifies those cases. -/
theorem finding_sha2_nonliteral_size : sha2Rule .sha2 none = .hex256 ∧ sha2Rule .sha2 (some 224) = .passedOn := by decide

/-- TRIM(s) strips blanks -/
theorem C10_trim_partial (s : List Char) : trimImpl s none = trimSpec s none := rfl

/-- TRIM(x::varchar, chars): with the operand explicitly cast to text the node is left as it is and the characters are
    stripped as documented, for every string and character set -/
theorem C10_trim_text_cast (s : List Char) (chars : Option (List Char)) : trimImplG true s chars = trimSpec s chars := rfl

/-- C10/trim-chars — `TRIM(s, chars)`: the characters argument is dropped -/
theorem finding_trim_chars : trimImpl "xxaxx".toList (some ['x']) = "xxaxx".toList ∧ trimSpec "xxaxx".toList (some ['x']) = ['a'] := by
  string_lits; decide

/-- **Context commutation**: under sqlglot's traversal a rewrite rule acts on a construct `e` the same way in
    every context `c` (select list, WHERE, nested call, DML, view, CTE — any tree position) on whose path to `e`
    the rule itself does not fire; the rest of the context is rewritten independently. -/
theorem C10_context (r : X → Option X) (c : Cx) (e : X) (h : c.quiet r e) :
    topDownX r (c.plug e) = (c.map (topDownX r)).plug (topDownX r e) := by
  induction c with
  | hole => rfl
  -- the rule is silent at a node on the path (`h.1`), so the traversal descends; the child with the hole is `ih`
  | n1 _ _ ih => exact (topDownX_n1 h.1).trans (congrArg (X.n1 _) (ih h.2))
  | n2l _ _ _ ih => exact (topDownX_n2 h.1).trans (congrArg (X.n2 _ · _) (ih h.2))
  | n2r _ _ _ ih => exact (topDownX_n2 h.1).trans (congrArg (X.n2 _ _) (ih h.2))
  | n3l _ _ _ _ ih => exact (topDownX_n3 h.1).trans (congrArg (X.n3 _ · _ _) (ih h.2))
  | n3m _ _ _ _ ih => exact (topDownX_n3 h.1).trans (congrArg (X.n3 _ _ · _) (ih h.2))
  | n3r _ _ _ _ ih => exact (topDownX_n3 h.1).trans (congrArg (X.n3 _ _ _) (ih h.2))

/-- **… also under a context that is itself rewritten**: an IN-PLACE rule (REGEXP_REPLACE's, which patches the node and
    returns it) reaches a construct at any depth, with no hypothesis on the context — REGEXP_REPLACE nested in the
    subject of another REGEXP_REPLACE is rewritten like the outer one.  (For REPLACING rules the hypothesis of
    `C10_context` is needed: `C10_context_hypothesis_needed`.) -/
theorem C10_context_in_place (g : Nat → Nat) (c : Cx) (e : X) :
    inPlaceX g (c.plug e) = (c.inPlace g).plug (inPlaceX g e) := by
  induction c <;> simp only [Cx.plug, Cx.inPlace, inPlaceX, *]

/-- a rule that only looks at the node's own function symbol: function 7 with one argument becomes function 8 -/
private def ruleW : X → Option X
  | .n1 7 a => some (.n1 8 a)
  | _ => none

/-- REGEXP_REPLACE (7 ↦ 8) inside REGEXP_REPLACE: in place both are rewritten, as a replacing rule (the lambda is `ruleW`) only the
    outer one -/
theorem C10_nested_in_place_vs_replacing :
    inPlaceX (fun f => if f = 7 then 8 else f) (.n1 7 (.n1 7 (.leaf 0))) = .n1 8 (.n1 8 (.leaf 0)) ∧
    topDownX (fun | .n1 7 a => some (.n1 8 a) | _ => none) (.n1 7 (.n1 7 (.leaf 0))) = .n1 8 (.n1 7 (.leaf 0)) :=
  ⟨rfl, topDownX_fire _ rfl⟩

example : (Cx.n2r 1 (.n1 7 (.leaf 0)) (.n3m 2 (.leaf 1) .hole (.leaf 2))).quiet ruleW (.n1 7 (.leaf 5)) :=
  ⟨rfl, rfl, trivial⟩

/-- the hypothesis is needed: a construct nested directly inside ANOTHER instance of the same rewritten construct is
    not rewritten (the replaced outer node is not descended into).  For the constructs of C10 this is not observable
    (sqlglot's DuckDB generator renders the left-over inner node acceptably); C11's chained subscripts are the
    observable instance. -/
theorem C10_context_hypothesis_needed :
    topDownX ruleW (.n1 7 (.n1 7 (.leaf 0))) = .n1 8 (.n1 7 (.leaf 0)) := topDownX_fire ruleW rfl

end Fs.C10
