import Fs.Proofs.Tx
/-!
# C13 — transactions are atomic, isolated between connections, and sticky to theirs

Lemmas: `Fs/Proofs/Tx.lean`; model: `Fs/Model/Tx.lean`.

A *history* is a list of `(connection, statement)`; `run m s h` executes it from state `s`.  The theorems about a
transaction of connection `c` quantify over **all** states `s` in which `c` is where the theorem says (idle, pinned, …)
and **all** interleavings `blk` (any number of other connections, doing anything – including their own transactions
and commits – between the statements of `c`); the single-statement theorems over all such `s`; `C13_sticky` over all
event lists on a fresh instance.
`Mode.duck` is the model of the code (DuckDB aborts a transaction on a run-time error / nested BEGIN);
`Mode.ideal` is the specification (a failing statement fails alone).

Engine behaviour (DuckDB MVCC: lazy snapshot, snapshot + own writes, commit applies the write list) is
*modelled* in `loc` – trusted base, re-validated against the real stack on every run.
-/
namespace Fs.C13
open Fs.Tx

/-- the statements of `c` inside `blk` neither COMMIT nor ROLLBACK (they are "between BEGIN and …") -/
def Inside (c : Nat) (blk : List (Nat × Stmt)) : Prop := ∀ e ∈ blk, e.1 = c → e.2.endsTx = false

/-- none of `c`'s statements in `blk` aborts an open transaction in mode `m` (envelope of the commit theorem) -/
def NoAbort (m : Mode) (c : Nat) (blk : List (Nat × Stmt)) : Prop := ∀ e ∈ blk, e.1 = c → aborts m e.2 = false

def without (c : Nat) (h : List (Nat × Stmt)) : List (Nat × Stmt) := h.filter fun e => e.1 != c

/-- **Clause 1 – BEGIN … ROLLBACK leaves no trace** (full strength, both modes, also when the transaction
    got aborted on the way): for every state in which `c` is idle and every interleaving `blk`, running
    `BEGIN; …; ROLLBACK` of `c` interleaved with everybody else ends in *exactly* the state reached when `c`'s
    statements are deleted from the history, and every other connection observed exactly the same results. -/
theorem C13_rollback_no_trace (m : Mode) (s : Sys) (c : Nat) (blk : List (Nat × Stmt))
    (hidle : s.tx c = .idle) (hin : Inside c blk) :
    (run m s ((c, .begin) :: blk ++ [(c, .rollback)])).1 = (run m s (without c blk)).1 ∧
    othersObs c ((c, .begin) :: blk ++ [(c, .rollback)]) (run m s ((c, .begin) :: blk ++ [(c, .rollback)])).2
      = (run m s (without c blk)).2 :=
  -- `run_tx_block` at ROLLBACK, up to reduction: `if .rollback = .commit then … else []` is `[]`, `com.apps []` is `com`,
  -- `{ r with com := r.com }` is `r`; `without` and `Inside` unfold to the filter and the hypothesis of the lemma
  run_tx_block m s c blk .rollback hidle hin rfl

/-- what "atomic, and not before" means for one transaction of `c` around the interleaving `blk` -/
def CommitAtomic (m : Mode) (s : Sys) (c : Nat) (blk : List (Nat × Stmt)) : Prop :=
  let h1 := (c, Stmt.begin) :: blk ++ [(c, Stmt.commit)]
  -- not before: until the COMMIT every other connection observes what it observes without `c`
  othersObs c h1 (run m s h1).2 = (run m s (without c blk)).2 ∧
  -- together at COMMIT: the committed store is the store of the run without `c` plus ALL of `c`'s writes, in order
  (run m s h1).1.com = (run m s (without c blk)).1.com.apps (writesOf c blk) ∧
  -- nobody else's transaction state is affected, and `c` is back in autocommit
  (∀ d, d ≠ c → (run m s h1).1.tx d = (run m s (without c blk)).1.tx d) ∧ (run m s h1).1.tx c = .idle

/-- clause 2 in either mode: a BEGIN … COMMIT block none of whose statements aborts the transaction is atomic -/
theorem commit_atomic_gen (m : Mode) (s : Sys) (c : Nat) (blk : List (Nat × Stmt))
    (hidle : s.tx c = .idle) (hin : Inside c blk) (hna : NoAbort m c blk) : CommitAtomic m s c blk := by
  obtain ⟨hs, ho⟩ := run_tx_block m s c blk .commit hidle hin rfl
  -- no statement of `c` aborts, so the writes pending at COMMIT are all of `writesOf c blk`
  have hp := run_tx_inv m c (fun acc t => t.pend = some acc) (fun st => st.endsTx = false ∧ aborts m st = false)
    (fun _ _ _ _ h ok => loc_pend m h ok.1 ok.2) blk (step m s c .begin).1 []
    (by rw [step_tx_self, hidle]; rfl) (fun e he hc => ⟨hin e he hc, hna e he hc⟩)
  simp only [hp, List.nil_append, Option.getD_some, ↓reduceIte] at hs
  refine ⟨ho, ?_⟩
  -- `hs`: the final state is `{ r₀ with com := r₀.com.apps (writesOf c blk) }`, `r₀` the state of the run without `c`
  rw [hs]
  exact ⟨rfl, fun _ _ => rfl, (run_tx_other m c _ s (by simp)).trans hidle⟩

/-- **Clause 2, specification**: under statement-level failure (`Mode.ideal`) every transaction is atomic,
    whatever statements – failing ones and nested BEGINs included – it contains. -/
theorem C13_commit_atomic_spec (s : Sys) (c : Nat) (blk : List (Nat × Stmt))
    (hidle : s.tx c = .idle) (hin : Inside c blk) : CommitAtomic .ideal s c blk :=
  commit_atomic_gen .ideal s c blk hidle hin (fun e _ _ => by cases e.2 <;> rfl)

/-- Clause 2 at full strength for the code: every BEGIN … COMMIT block is atomic. **False** (see the two
    `finding_` theorems). -/
def C13_commit_atomic_Full : Prop :=
  ∀ (s : Sys) (c : Nat) (blk : List (Nat × Stmt)), s.tx c = .idle → Inside c blk → CommitAtomic .duck s c blk

/-- **Clause 2 for the code, partial**: a BEGIN … COMMIT block of `c` is atomic – invisible to every other
    connection until COMMIT, then published completely – provided none of `c`'s statements in it is a
    run-time-failing statement or a nested BEGIN (Catalog/Binder failures are allowed). -/
theorem C13_commit_atomic_partial (s : Sys) (c : Nat) (blk : List (Nat × Stmt))
    (hidle : s.tx c = .idle) (hin : Inside c blk) (hna : NoAbort .duck c blk) : CommitAtomic .duck s c blk :=
  commit_atomic_gen .duck s c blk hidle hin hna

def empty : Store := fun _ => []

/-- Finding `C13/runtime-error-aborts-tx`: `BEGIN; INSERT (1,1); <conversion error>; COMMIT` commits nothing. -/
theorem finding_C13_runtime_error_aborts_tx :
    ¬ CommitAtomic .duck (Sys.init empty) 0 [(0, .dml 0 (.ins 1 1)), (0, .failRun)] :=
  fun h => absurd (congrFun h.2.1 0) (by decide)

/-- Finding `C13/nested-begin-aborts-tx`: `BEGIN; INSERT (1,1); BEGIN; COMMIT` commits nothing. -/
theorem finding_C13_nested_begin_aborts_tx :
    ¬ CommitAtomic .duck (Sys.init empty) 0 [(0, .dml 0 (.ins 1 1)), (0, .begin)] :=
  fun h => absurd (congrFun h.2.1 0) (by decide)

theorem C13_commit_atomic_full_false : ¬ C13_commit_atomic_Full := fun h =>
  finding_C13_runtime_error_aborts_tx (h _ 0 _ rfl (by unfold Inside; decide))

/-- **Envelope transfer**: on every history that never makes an open transaction meet an aborting statement
    (`envOk`, decidable, evaluated by the driver on every explored case) the code model and the
    specification coincide – final state and every observation. -/
theorem C13_partial (s : Sys) (h : List (Nat × Stmt)) (henv : envOk s h = true) :
    run .duck s h = run .ideal s h := by
  induction h generalizing s with
  | nil => rfl
  | cons x xs ih =>
    obtain ⟨c, st⟩ := x
    simp only [envOk, Bool.and_eq_true] at henv
    have e : step .duck s c st = step .ideal s c st := by rw [step, step, loc_env henv.1]
    rw [run_cons, run_cons, ← e, ih _ henv.2]

/-- **Clause 3 – own writes, and only those**: once `c`'s transaction has its snapshot `sn` (with writes `ws`
    so far), then after *any* interleaving in which `c` stays in the transaction and issues no statement that aborts
    it (`NoAbort`: in `Mode.duck` no run-time failure and no nested BEGIN; no restriction in `Mode.ideal`), `c` still
    holds the same snapshot and exactly its own DML on top of it – and a read of any table returns precisely that,
    independent of everything the other connections did or committed meanwhile. -/
theorem C13_own_writes (m : Mode) (s : Sys) (c : Nat) (sn : Store) (ws : List W) (blk : List (Nat × Stmt))
    (hp : s.tx c = .pinned sn ws) (hin : Inside c blk) (hna : NoAbort m c blk) :
    (run m s blk).1.view c = sn.apps (ws ++ writesOf c blk) ∧
    ∀ t, (step m (run m s blk).1 c (.sel t)).2 = .rows (sn.apps (ws ++ writesOf c blk) t) := by
  have := run_tx_inv m c (fun acc t => t = .pinned sn acc) (fun st => st.endsTx = false ∧ aborts m st = false)
    (fun _ _ _ _ h ok => h ▸ loc_pinned m ok.1 ok.2) blk s ws hp
    (fun e he hc => ⟨hin e he hc, hna e he hc⟩)
  constructor
  · simp [Sys.view, this]
  · intro t; rw [step_obs, this]; rfl

/-- **Clause 3, isolation from the transaction's side** (full strength, also through an abort): what a
    pinned connection observes, statement by statement, is what it would observe running alone. -/
theorem C13_isolated_view (m : Mode) (s : Sys) (c : Nat) (blk : List (Nat × Stmt))
    (hp : (s.tx c).sealed = true) (hin : Inside c blk) :
    ownObs c blk (run m s blk).2 = (run m s (blk.filter fun e => e.1 == c)).2 :=
  run_sealed m c blk s s rfl hp hin

/-- committed data is what idle and not-yet-pinned connections read ("visible to other connections … at COMMIT") -/
theorem C13_committed_visible (m : Mode) (s : Sys) (d t : Nat) (hd : s.tx d = .idle ∨ s.tx d = .fresh) :
    (step m s d (.sel t)).2 = .rows (s.com t) := by
  rcases hd with hd | hd <;> rw [step_obs, hd] <;> rfl

/-- **Clause 4 – autocommit**: outside a transaction a DML statement is committed at once: it has exactly the
    effect of `BEGIN; stmt; COMMIT`, and every connection that is idle or has not yet pinned a snapshot –
    the issuing one included – reads the new contents immediately. -/
theorem C13_autocommit (m : Mode) (s : Sys) (c : Nat) (t : Nat) (op : Dml) (hidle : s.tx c = .idle) :
    (step m s c (.dml t op)).1.com = s.com.app ⟨t, op⟩ ∧
    (step m s c (.dml t op)).1 = (run m s [(c, .begin), (c, .dml t op), (c, .commit)]).1 ∧
    ∀ d, (s.tx d = .idle ∨ s.tx d = .fresh) →
      (step m (step m s c (.dml t op)).1 d (.sel t)).2 = .rows (op.app (s.com t)) := by
  have h1 := step_idle m (.dml t op) hidle (by simp)
  refine ⟨by rw [h1]; rfl, ?_, fun d hd => ?_⟩
  · rw [h1, run_cons, run_cons, run_cons, step_begin m hidle]
    simp only [run, step, Sys.setTx_com, Sys.setTx_tx_self, Sys.setTx_setTx]
    -- one `setTx c` is left; its arguments evaluate to `.idle` and `s.com.apps [⟨t, op⟩]`
    exact (Sys.setTx_eq hidle).symm
  · rw [C13_committed_visible m _ d t (by rw [h1]; exact hd), h1]
    exact congrArg Obs.rows (if_pos rfl)

/-- **Clause 5 – COMMIT / ROLLBACK without a transaction are successful no-ops**: the state is unchanged and
    the result is the standard status row. -/
theorem C13_noop (m : Mode) (s : Sys) (c : Nat) (hidle : s.tx c = .idle) :
    step m s c .commit = (s, .status) ∧ step m s c .rollback = (s, .status) := by
  constructor <;> exact Prod.ext (step_idle m _ hidle (by simp)) (by rw [step_obs, hidle]; rfl)

/-- **A statement that fails outside a transaction changes nothing – in particular it leaves no transaction open**:
    Catalog/Binder failures, run-time failures, and a multi-part statement (MERGE) failing part-way.  So afterwards the
    connection is still in autocommit (`C13_autocommit` applies to its next DML) and COMMIT/ROLLBACK are still no-ops
    (`C13_noop`).  (A code change that wraps the parts of a MERGE in a transaction of its own and forgets to roll it
    back on failure breaks exactly this; the correspondence runs such statements followed by DML, another connection's
    reads and a ROLLBACK.) -/
theorem C13_failed_statement_keeps_autocommit (m : Mode) (s : Sys) (c : Nat) (hidle : s.tx c = .idle) :
    (∀ b, (step m s c (.failBind b)).1 = s) ∧ (step m s c .failRun).1 = s ∧ (step m s c .failMulti).1 = s :=
  ⟨fun _ => step_idle m _ hidle (by simp), step_idle m _ hidle (by simp), step_idle m _ hidle (by simp)⟩

/-- **Sticky to theirs** (`instance.py:83`, `conn.py:124-126`, `conn.py:121-122,146-147`): for every event list
    starting from a fresh instance – connects with or without a database/schema argument (`Ev.connect named`), cursor
    creations from the opening thread or from any other (`Ev.cursor c foreign`), `with conn:` / `with cursor:` blocks
    ending normally or by an exception (`Ev.blockExit`, which runs nothing), statements on any cursor,
    `conn.commit()` / `conn.rollback()` – the real plumbing – a new engine connection per `connect()`, cursors sharing
    their connection's – behaves exactly like the history in which each statement is issued by the *fake connection*
    that owns the cursor: same final state, same observations.  So every theorem above, stated per connection, holds
    per fake connection and through all of its cursors, and `conn.commit()` / `conn.rollback()` are COMMIT /
    ROLLBACK of that connection. -/
theorem C13_sticky (m : Mode) (com : Store) (evs : List Ev) :
    (World.run false m (World.init com) evs).1.sys = (run m (Sys.init com) (Book.trace ⟨0, []⟩ evs)).1 ∧
    (World.run false m (World.init com) evs).2.filterMap id = (run m (Sys.init com) (Book.trace ⟨0, []⟩ evs)).2 :=
  World.of_init com ▸ world_run_of m evs (Sys.init com) ⟨0, []⟩

/-- Mutant witness: if `connect()` handed the instance's single (root) engine connection (`self.duck_conn` instead of
    `self.duck_conn.cursor()`) to the connections opened without a database/schema (`Ev.connect false`), connection 1
    would read connection 0's uncommitted insert; with the real plumbing it reads nothing.  The model is sensitive to
    `instance.py:83`. -/
theorem C13_shared_connection_breaks_isolation :
    let evs := [Ev.connect false, .connect false, .cursor 0 false, .cursor 1 false,
                .exec 0 .begin, .exec 0 (.dml 0 (.ins 1 1)), .exec 1 (.sel 0)]
    (World.run true .duck (World.init empty) evs).2.getLast? = some (some (.rows [(1, 1)])) ∧
    (World.run false .duck (World.init empty) evs).2.getLast? = some (some (.rows [])) := by
  decide +kernel

/-- the hypotheses of `C13_commit_atomic_partial` / `C13_rollback_no_trace` hold of a transaction with a Binder failure,
    interleaved with another connection's autocommit write and transaction -/
example : Inside 0 [(0, .dml 0 (.ins 1 1)), (1, .dml 1 (.ins 7 7)), (0, .sel 1), (1, .begin), (0, .failBind true),
    (1, .dml 1 (.del 7)), (0, .dml 0 (.upd 1 2)), (1, .commit)] ∧
    NoAbort .duck 0 [(0, .dml 0 (.ins 1 1)), (1, .dml 1 (.ins 7 7)), (0, .sel 1), (1, .begin), (0, .failBind true),
    (1, .dml 1 (.del 7)), (0, .dml 0 (.upd 1 2)), (1, .commit)] := by
  unfold Inside NoAbort; decide +kernel

/-- a transaction evaluated: before the COMMIT connection 1 reads nothing of table 0; after it, the row in its final state -/
example : (run .duck (Sys.init empty)
    [(0, .begin), (0, .dml 0 (.ins 1 1)), (1, .sel 0), (0, .dml 0 (.upd 1 2)), (0, .sel 0), (1, .sel 0), (0, .commit), (1, .sel 0)]).2
    = [.empty, .count 1, .rows [], .count 1, .rows [(1, 2)], .rows [], .empty, .rows [(1, 2)]] := by decide +kernel

/-- lazy snapshot: the transaction of connection 0 sees what connection 1 committed before 0's first
    table-touching statement, and nothing committed later -/
example : (run .duck (Sys.init empty)
    [(0, .begin), (0, .const), (1, .dml 1 (.ins 5 5)), (0, .sel 1), (1, .dml 1 (.ins 6 6)), (0, .sel 1), (0, .commit), (0, .sel 1)]).2
    = [.empty, .one, .count 1, .rows [(5, 5)], .count 1, .rows [(5, 5)], .empty, .rows [(5, 5), (6, 6)]] := by decide +kernel

/-- `envOk` is inhabited by a history with failing statements inside a transaction -/
example : envOk (Sys.init empty) [(0, .begin), (0, .failBind false), (0, .dml 0 (.ins 1 1)), (1, .failRun), (0, .commit)] = true := by
  decide +kernel

end Fs.C13
