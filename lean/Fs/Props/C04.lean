import Fs.Proofs.Dml
import Fs.Proofs.StrLit
/-!
# C04 — DML changes exactly the right rows and reports the true affected count

The statements of C04, proved from the lemmas of `Fs/Proofs/Dml.lean` (which also defines `DB.wf`, every row has its table's
width, used by `C04_history_wf`); `lastPart_no_dot` is proved here.

* `Impl.step` = the modelled engine (`engine`, DuckDB's DML on the mini relational model, *trusted, tied by
  the correspondence*) followed by the model of the result plumbing at the end of `cursor._execute`
  (`branch`, `finish`; fakesnow's own code).
* `Spec.step` = SQL semantics written declaratively (`Spec.apply`) + what a Snowflake cursor shows (`Spec.obs`).

Tables hold optional integers (NULLs), rows may repeat, predicates are three-valued.  The theorems with binders are
for *all* databases, statements, predicates and histories of the model; the closed ones are witnesses on concrete inputs.
-/
namespace Fs.C04
open Fs.Dml

/-- `s` is INSERT, UPDATE or DELETE (the statements whose status row carries a count) -/
def Counted : Stmt → Prop
  | .truncate _ => False
  | _ => True

/-- the count shown in the first cell of the one-row status result -/
def statusCount (o : Obs) : Option Int :=
  match o.rows with
  | [Cell.int n :: _] => some n
  | _ => none

/-- **Refinement, one statement**: the cursor (engine + result plumbing) answers every DML statement on
    every database exactly as SQL semantics + Snowflake's status conventions prescribe: same new
    database, same status row and column names, same rowcount, same error class. -/
theorem C04_refines (db : DB) (s : Stmt) : Impl.step db s = Spec.step db s := by
  rw [Impl.step_eq_spec]

/-- **Refinement, histories**: for every sequence of DML statements from every database, every
    observation and the final database agree with the specification (a rejected statement leaves the
    database as it was and the history continues). -/
theorem C04_history (db : DB) (ss : List Stmt) : runWith Impl.step db ss = runWith Spec.step db ss := by
  rw [Impl.step_eq_spec]

/-- **True count, including zero**: after INSERT / UPDATE / DELETE, `rowcount` and the status row's
    count both equal the number of rows SQL semantics says were affected — for every table and
    predicate, whether that number is 0, 1 or many. -/
theorem C04_count (db db' : DB) (s : Stmt) (o : Obs) (hs : Counted s) (h : Impl.step db s = .ok (db', o)) :
    ∃ n, Spec.apply db s = .ok (db', n) ∧ o.rowcount = n ∧ statusCount o = some (n : Int) ∧ o.rows.length = 1 := by
  obtain ⟨n, hap, rfl⟩ := Impl.step_ok h
  refine ⟨n, hap, ?_⟩
  cases s with
  | truncate t => exact hs.elim
  | _ => exact ⟨rfl, rfl, rfl⟩

/-- **DELETE removes exactly the rows whose predicate is TRUE** (not FALSE, not UNKNOWN), keeps the others
    in order, and the count is the number removed. -/
theorem C04_delete_rows (db db' : DB) (t : Nat) (p : Option Pred) (o : Obs)
    (h : Impl.step db (.delete t p) = .ok (db', o)) :
    ∃ tb, db[t]? = some tb ∧
      db'[t]? = some { tb with rows := tb.rows.filter (fun r => ¬ whereEval p r = .t) } ∧
      (∀ r, r ∈ (tb.rows.filter (fun r => ¬ whereEval p r = .t)) ↔ r ∈ tb.rows ∧ whereEval p r ≠ .t) ∧
      o.rowcount = tb.rows.countP (fun r => whereEval p r = .t) ∧
      tb.rows.length = (tb.rows.filter (fun r => ¬ whereEval p r = .t)).length + o.rowcount := by
  obtain ⟨n, hap, rfl⟩ := Impl.step_ok h
  obtain ⟨tb, hdb, _, rfl, rfl⟩ := apply_delete_ok hap
  refine ⟨tb, hdb, getElem?_set_of_some hdb, fun r => by simp [List.mem_filter], rfl, ?_⟩
  rw [← List.countP_eq_length_filter, Nat.add_comm]
  simpa [Spec.obs] using List.length_eq_countP_add_countP (fun r => decide (whereEval p r = .t)) (l := tb.rows)

/-- **UPDATE rewrites exactly the rows whose predicate is TRUE**, in place, every right-hand side seeing the
    old row; the other rows and the number of rows are unchanged; the count is the number rewritten. -/
theorem C04_update_rows (db db' : DB) (t : Nat) (sets : List (Nat × Expr)) (p : Option Pred) (o : Obs)
    (h : Impl.step db (.update t sets p) = .ok (db', o)) :
    ∃ tb, db[t]? = some tb ∧
      db'[t]? = some { tb with rows := tb.rows.map (fun r => if whereEval p r = .t then assign sets r else r) } ∧
      o.rowcount = tb.rows.countP (fun r => whereEval p r = .t) ∧ o.rowcount ≤ tb.rows.length := by
  obtain ⟨n, hap, rfl⟩ := Impl.step_ok h
  obtain ⟨tb, hdb, _, rfl, rfl⟩ := apply_update_ok hap
  exact ⟨tb, hdb, getElem?_set_of_some hdb, rfl, List.countP_le_length⟩

/-- **Meaning of SET**: column `j` of the rewritten row is the value of its right-hand side *on the old
    row* if `j` is assigned, and the old value otherwise (so `SET a = b, b = a` swaps). -/
theorem C04_assign (sets : List (Nat × Expr)) (r : Row) (j : Nat) (hj : j < r.length) :
    (assign sets r)[j]? = some (match sets.find? (fun s => s.1 == j) with
      | some s => s.2.eval r
      | none => r[j]) ∧ (assign sets r).length = r.length := by
  refine ⟨?_, assign_length sets r⟩
  simp only [assign, List.getElem?_map, List.getElem?_zipIdx, List.getElem?_eq_getElem hj, Option.map_some, Nat.zero_add,
    Option.some.injEq]
  cases sets.find? (fun s => s.1 == j) <;> rfl

/-- **INSERT appends exactly the source rows** (VALUES rows, or the rows of the source table whose
    predicate is TRUE, projected), laid out over the target's columns, after the existing rows; nothing is
    removed; the count is the number of rows appended — 0 for an empty source. -/
theorem C04_insert_rows (db db' : DB) (t : Nat) (cols : Option (List Nat)) (src : Src) (o : Obs)
    (h : Impl.step db (.insert t cols src) = .ok (db', o)) :
    ∃ tb new, db[t]? = some tb ∧ Spec.insertRows db tb cols src = .ok new ∧
      db'[t]? = some { tb with rows := tb.rows ++ new } ∧ o.rowcount = new.length ∧
      (tb.rows ++ new).length = tb.rows.length + o.rowcount := by
  obtain ⟨n, hap, rfl⟩ := Impl.step_ok h
  obtain ⟨tb, new, hdb, hi, rfl, rfl⟩ := apply_insert_ok hap
  exact ⟨tb, new, hdb, hi, getElem?_set_of_some hdb, rfl, List.length_append⟩

/-- **Meaning of an INSERT column list**: with distinct listed columns, the `k`-th source value lands in
    the `k`-th listed column, every unlisted column is NULL, and the row has the table's width. -/
theorem C04_place (arity : Nat) (cs : List Nat) (src : Row) (hnd : cs.Nodup) (hin : ∀ c ∈ cs, c < arity) :
    (place arity (some cs) src).length = arity ∧
    (∀ k (hk : k < cs.length), (place arity (some cs) src)[cs[k]]? = some (src.getD k none)) ∧
    (∀ j, j < arity → j ∉ cs → (place arity (some cs) src)[j]? = some none) := by
  refine ⟨by simp [place], fun k hk => ?_, fun j hj hn => ?_⟩
  · have := hin cs[k] (List.getElem_mem hk)
    simp [place, placeCol, this, posOf_getElem hnd hk]
  · simp [place, placeCol, hj, posOf_none hn]

/-- **TRUNCATE empties the target** and answers with the success status row. -/
theorem C04_truncate (db db' : DB) (t : Nat) (o : Obs) (h : Impl.step db (.truncate t) = .ok (db', o)) :
    ∃ tb, db[t]? = some tb ∧ db'[t]? = some { tb with rows := [] } ∧
      o.rows = [[.text successText]] ∧ o.names = ["status"] := by
  obtain ⟨n, hap, rfl⟩ := Impl.step_ok h
  obtain ⟨tb, hdb, rfl, rfl⟩ := apply_truncate_ok hap
  exact ⟨tb, hdb, getElem?_set_of_some hdb, rfl, rfl⟩

/-- **Frame**: a successful statement changes nothing but the rows of its target: the set of tables, every
    other table, and the target's column count stay as they were. -/
theorem C04_frame (db db' : DB) (s : Stmt) (o : Obs) (h : Impl.step db s = .ok (db', o)) :
    db'.length = db.length ∧ (∀ j, j ≠ s.target → db'[j]? = db[j]?) ∧
    (∀ tb', db'[s.target]? = some tb' → ∃ tb, db[s.target]? = some tb ∧ tb'.arity = tb.arity) := by
  obtain ⟨n, hap, _⟩ := Impl.step_ok h
  exact apply_frame hap

/-- **Frame over histories**: a table that no statement of the history targets is, at the end, exactly
    what it was at the start, whatever happened to the others (including failed statements). -/
theorem C04_history_frame (db : DB) (ss : List Stmt) (j : Nat) (h : ∀ s ∈ ss, s.target ≠ j) :
    (runWith Impl.step db ss).2[j]? = db[j]? ∧ (runWith Impl.step db ss).2.length = db.length := by
  rw [Impl.step_eq_spec]
  exact runWith_inv (fun d => d[j]? = db[j]? ∧ d.length = db.length) ss
    (fun hs hd hap => ⟨((apply_frame hap).2.1 j (h _ hs).symm).trans hd.1, (apply_frame hap).1.trans hd.2⟩) ⟨rfl, rfl⟩

/-- **Shape invariant over histories**: if every row has its table's width at the start, that is still so
    after any history (no statement can leave a ragged table), and every statement got an answer. -/
theorem C04_history_wf (db : DB) (ss : List Stmt) (hwf : DB.wf db) :
    DB.wf (runWith Impl.step db ss).2 ∧ (runWith Impl.step db ss).1.length = ss.length := by
  refine ⟨?_, runWith_outputs_length _ db ss⟩
  rw [Impl.step_eq_spec]
  exact runWith_inv DB.wf ss (fun _ => apply_wf) hwf

/-- **The zero case**: UPDATE / DELETE whose predicate is TRUE on no row (always-false, always-unknown, or an
    empty table) leave the database exactly as it was and report 0 in both `rowcount` and the status row. -/
theorem C04_zero (db db' : DB) (s : Stmt) (o : Obs) (h : Impl.step db s = .ok (db', o)) :
    (∀ t p tb, s = .delete t p → db[t]? = some tb → (∀ r ∈ tb.rows, whereEval p r ≠ .t) →
        db' = db ∧ o.rowcount = 0 ∧ statusCount o = some 0) ∧
    (∀ t sets p tb, s = .update t sets p → db[t]? = some tb → (∀ r ∈ tb.rows, whereEval p r ≠ .t) →
        db' = db ∧ o.rowcount = 0 ∧ statusCount o = some 0) := by
  obtain ⟨n, hap, rfl⟩ := Impl.step_ok h
  constructor
  · rintro t p tb rfl hdb hno
    obtain ⟨tb', hdb', _, rfl, rfl⟩ := apply_delete_ok hap
    cases hdb.symm.trans hdb'
    obtain ⟨h0, h1, _⟩ := no_row_true hno
    rw [h0, h1]
    exact ⟨set_self hdb, rfl, rfl⟩
  · rintro t sets p tb rfl hdb hno
    obtain ⟨tb', hdb', _, rfl, rfl⟩ := apply_update_ok hap
    cases hdb.symm.trans hdb'
    obtain ⟨h0, _, h2⟩ := no_row_true hno
    rw [h0, h2]
    exact ⟨set_self hdb, rfl, rfl⟩

/-- **Three-valued logic**: a comparison with NULL is UNKNOWN on every row, so it selects nothing; AND / OR /
    NOT are the Kleene tables (min / max / swap in the order FALSE < UNKNOWN < TRUE). -/
theorem C04_three_valued :
    (∀ a op r, (Pred.cmp a op (.lit none)).eval r = .u ∧ (Pred.cmp (.lit none) op a).eval r = .u) ∧
    (∀ x y : Tri, (x.and y).rank = min x.rank y.rank ∧ (x.or y).rank = max x.rank y.rank ∧
      x.not.rank = 2 - x.rank) := by
  refine ⟨fun a op r => ?_, fun x y => by cases x <;> cases y <;> decide⟩
  simp only [Pred.eval]
  cases a.eval r <;> exact ⟨rfl, rfl⟩

/-- **NULL-safe equality** (`EQUAL_NULL(a, b)`, `a IS NOT DISTINCT FROM b`; `IS DISTINCT FROM` is its negation) is two-valued on
    every row: TRUE when both sides are NULL or equal non-NULLs, FALSE otherwise — in particular FALSE, not UNKNOWN, when exactly
    one side is NULL, so `NOT EQUAL_NULL(col, x)` is TRUE on the rows where `col` is NULL and UPDATE/DELETE must affect them. -/
theorem C04_equal_null (a b : Opnd) (r : Row) :
    (Pred.eqNull a b).eval r ≠ .u ∧
    ((Pred.eqNull a b).eval r = .t ↔ a.eval r = b.eval r) ∧
    ((Pred.not (Pred.eqNull a b)).eval r = .t ↔ a.eval r ≠ b.eval r) ∧
    (Pred.eqNull a b).eval r = (Pred.eqNull b a).eval r := by
  simp only [Pred.eval]
  cases a.eval r <;> cases b.eval r <;> simp [Tri.ofBool, Tri.not]
  · rename_i x y; by_cases h : x = y <;> simp [h, eq_comm]

/-- known finding `C04/duckdb-contradictory-range-filter` (an engine defect the fake inherits): on the table below
    `DELETE … WHERE C0 = -1 AND C0 > C1 AND 0 <= C1` must delete nothing — the predicate is TRUE on no row — while DuckDB 1.0.0
    deletes the row (2, 0) and reports 1. -/
theorem finding_C04_duckdb_contradictory_range_filter :
    let p : Pred := .and (.and (.cmp (.col 0) .eq (.lit (some (-1)))) (.cmp (.col 0) .gt (.col 1))) (.cmp (.lit (some 0)) .le (.col 1))
    let rows : List Row := [[some 0, some (-2)], [none, none], [some (-1), some 3], [some 1, some 1], [some 2, some 0], [some (-2), some 2]]
    rows.countP (fun r => p.eval r = .t) = 0 ∧
    (Impl.step [⟨2, rows⟩] (.delete 0 (some p))).map (fun r => r.2.rowcount) = .ok 0 := by decide

/-- **A rejected statement leaves no result on the cursor**: whatever the cursor held from an earlier statement, after a
    statement that raises, `rowcount` is None and there is no open result set (the earlier statement's count and status row are
    gone); after a successful one the cursor holds exactly that statement's observation. -/
theorem C04_failed_statement_clears_result (prev : CurRes) (db : DB) (s : Stmt) :
    (∀ e, Impl.step db s = .error e → Impl.executeOn prev db s = ({ result := none, rowcount := none }, .error e)) ∧
    (∀ db' o, Impl.step db s = .ok (db', o) →
      Impl.executeOn prev db s = ({ result := some ⟨o.names, o.rows⟩, rowcount := some o.rowcount }, .ok db')) := by
  unfold Impl.executeOn
  exact ⟨fun e h => by rw [h], fun db' o h => by rw [h]⟩

/-- **`execute_string` = one cursor per statement**: when every statement of the script is accepted, the i-th
    returned cursor holds exactly what a separate `cursor.execute` of the i-th statement shows — its own status row,
    names and rowcount — and the database ends where the one-by-one history ends. -/
theorem C04_execute_string (db : DB) (ss : List Stmt) (os : List Obs)
    (h : (executeString Impl.step db ss).1 = .ok os) :
    (runWith Impl.step db ss).1 = os.map .ok ∧ (runWith Impl.step db ss).2 = (executeString Impl.step db ss).2 := by
  rw [executeString_ok h]; exact ⟨rfl, rfl⟩

/-- … and a statement rejected at the head of a script ends it with its error and the database as it was: nothing after it
    runs (`executeString` recurses on the rest only after an accepted statement, so the same holds behind an accepted prefix). -/
theorem C04_execute_string_error (db : DB) (s : Stmt) (ss : List Stmt) (e : Err) (h : Impl.step db s = .error e) :
    executeString Impl.step db (s :: ss) = (.error e, db) := by
  simp [executeString, h]

/-- witness: a script run on one shared cursor misreports — a DELETE that removes nothing, followed by a two-row
    INSERT, shows rowcount 2 for the DELETE (`executeStringShared`), where `execute_string` must show 0. -/
theorem C04_shared_cursor_misreports :
    ((executeStringShared Impl.step [⟨1, [[some 1]]⟩]
        [.delete 0 (some (.const .f)), .insert 0 none (.values 1 [[some 5], [some 6]])]).1.map fun os => os.map (·.rowcount)) = .ok [2, 2] ∧
    ((executeString Impl.step [⟨1, [[some 1]]⟩]
        [.delete 0 (some (.const .f)), .insert 0 none (.values 1 [[some 5], [some 6]])]).1.map fun os => os.map (·.rowcount)) = .ok [0, 2] := by
  decide

/-- **`nop_regexes` look at the start of the statement only**: for a plain-word pattern no longer than the
    statement's leading keyword, whether the statement is no-op'd depends on that keyword alone — not on anything
    that follows (identifiers, literals, bound values containing the word). -/
theorem C04_nop_only_at_start (word head rest rest' : List Char) (h : word.length ≤ head.length) :
    matchAtStart word (head ++ rest) = matchAtStart word (head ++ rest') := by
  rw [matchAtStart_append rest h, matchAtStart_append rest' h]

/-- … so on an instance configured with words that no DML keyword starts with, every DML statement behaves exactly
    as without the option. -/
theorem C04_nop_no_effect (words : List (List Char)) (text : List Char) (db : DB) (s : Stmt)
    (h : ∀ w ∈ words, matchAtStart w text = false) : Impl.stepNop words text db s = Impl.step db s := by
  unfold Impl.stepNop
  rw [if_neg]
  simpa using h

example : matchAtStart "GRANT".toList "insert into GRANTED0 (CALL0) values (1)".toList = false ∧
    matchAtStart "CALL".toList "call p()".toList = true := by
  string_lits; decide

/-- **DDL status text**: for every object name, CREATE DATABASE / SCHEMA / TABLE / VIEW and DROP answer with
    the Snowflake sentence naming the object — upper-cased unless quoted — and nothing else; ALTER, COMMENT
    ON TABLE, ALTER … SET COMMENT and TRUNCATE answer `Statement executed successfully.` -/
theorem C04_ddl_status (n : Ident) :
    ddlStatus .createDatabase n = some ("Database ".toList ++ n.norm ++ " successfully created.".toList) ∧
    ddlStatus .createSchema n = some ("Schema ".toList ++ n.norm ++ " successfully created.".toList) ∧
    ddlStatus .createTable n = some ("Table ".toList ++ n.norm ++ " successfully created.".toList) ∧
    ddlStatus .createView n = some ("View ".toList ++ n.norm ++ " successfully created.".toList) ∧
    ddlStatus .drop n = some (n.norm ++ " successfully dropped.".toList) ∧
    (∀ k ∈ [DdlKind.alter, .commentOnTable, .alterSetComment, .truncate],
      ddlStatus k n = some "Statement executed successfully.".toList) ∧
    (n.quoted = true → n.norm = n.raw) ∧ (n.quoted = false → n.norm = n.raw.map upperAscii) := by
  refine ⟨rfl, rfl, rfl, rfl, rfl, ?_, fun h => if_pos h, fun h => if_neg (ne_true_of_eq_false h)⟩
  intro k hk
  simp only [List.mem_cons, List.not_mem_nil, or_false] at hk
  rcases hk with rfl | rfl | rfl | rfl <;> rfl

theorem lastPart_no_dot (cs acc : List Char) (h : '.' ∉ cs) :
    cs.foldl (fun acc c => if c = '.' then [] else acc ++ [c]) acc = acc ++ cs := by
  induction cs generalizing acc with
  | nil => simp
  | cons c cs ih =>
    simp only [List.mem_cons, not_or] at h
    simp only [List.foldl_cons, if_neg (Ne.symm h.1)]
    rw [ih _ h.2]; simp

/-- **`IDENTIFIER('name')` as object name**: for an unqualified literal the status names the *upper-cased* literal —
    `create table identifier('orders')` answers "Table ORDERS successfully created." — exactly what Snowflake shows (the
    status branch's own `.upper()` is what does it: `transforms.identifier` runs after the general upper-casing). -/
theorem C04_ddl_status_identifier (k : DdlKind) (lit : List Char) (hk : k.named = true) (h : '.' ∉ lit) :
    ddlStatus k (identifierArg lit) = Spec.ddlStatus k (Spec.identifierName lit) false ∧
    ddlStatus k (identifierArg lit) = some (statusPrefix k ++ lit.map upperAscii ++ statusSuffix k) := by
  have : lastPart lit = lit := by simpa [lastPart] using lastPart_no_dot lit [] h
  simp [ddlStatus, Spec.ddlStatus, hk, identifierArg, Spec.identifierName, this, Ident.norm]

/-- known finding `C04/ddl-status-identifier-qualified`: `create table identifier('s1.q2')` answers "Table S1.Q2 …" (the whole
    literal is one identifier) where the object's own name is Q2. -/
theorem finding_C04_ddl_status_identifier_qualified :
    ddlStatus .createTable (identifierArg "s1.q2".toList) ≠ Spec.ddlStatus .createTable (Spec.identifierName "s1.q2".toList) false := by
  string_lits; decide

/-- **Bound values are data, whatever they contain**: with the code's phase order (inline session variables into the command
    text, then bind pyformat/format parameters) the literals that reach the engine are exactly the bound values — for every
    variable substitution `f`, every command and every value list (a value such as 'charged at $rate per unit' is stored as is). -/
theorem C04_bound_values_untouched (f : List Char → List Char) (cmd : List Seg) (vs : List (List Char))
    (hcmd : litValues cmd = []) (hlen : placeholders cmd ≤ vs.length) :
    litValues (prepare f cmd vs) = vs.take (placeholders cmd) :=
  litValues_prepare f cmd vs hcmd

/-- witness: binding first and inlining afterwards rewrites the value (`$rate` ↦ `5`). -/
theorem C04_swapped_phases_rewrite_values :
    let f : List Char → List Char := fun s => if s = "$rate".toList then "5".toList else s
    litValues (prepareSwapped f [.text "insert into t values (".toList, .ph, .text ")".toList] ["$rate".toList]) = ["5".toList] ∧
    litValues (prepare f [.text "insert into t values (".toList, .ph, .text ")".toList] ["$rate".toList]) = ["$rate".toList] := by
  string_lits; decide

/-- the full DDL-status statement: for every kind and name, whether or not an IF [NOT] EXISTS made the
    statement a no-op, the cursor answers what Snowflake answers, through a well-formed status select -/
def C04_ddl_Full : Prop :=
  ∀ k n noop, statusSqlWellFormed k n = true ∧ ddlStatus k n = Spec.ddlStatus k n noop

/-- envelope of `C04_ddl_status_partial`: exactly the cases outside every DDL finding region -/
def DdlEnv (k : DdlKind) (n : Ident) (noop : Bool) : Prop := ddlFinding k n noop = none

/-- **DDL status, partial**: outside the three recorded finding regions the cursor's status row is
    Snowflake's and the status select is well formed. -/
theorem C04_ddl_status_partial (k : DdlKind) (n : Ident) (noop : Bool) (h : DdlEnv k n noop) :
    statusSqlWellFormed k n = true ∧ ddlStatus k n = Spec.ddlStatus k n noop := by
  obtain ⟨h1, h2, h3⟩ := ddlFinding_none h
  constructor
  · unfold statusSqlWellFormed
    cases hs : k.splicesName
    · rfl
    · simpa [hs] using h1
  · unfold ddlStatus Spec.ddlStatus
    cases hn : k.named
    · simp only [if_neg h3]; rfl
    · cases noop
      · rfl
      · exact absurd ⟨hn, rfl⟩ h2

/-- known finding `C04/ddl-status-if-exists-noop`: `CREATE TABLE IF NOT EXISTS t` on an existing table says
    "Table T successfully created." where Snowflake says "T already exists, statement succeeded." -/
theorem finding_C04_ddl_status_if_exists_noop :
    ddlStatus .createTable ⟨['t'], false⟩ ≠ Spec.ddlStatus .createTable ⟨['t'], false⟩ true := by
  -- unfolded first, so that `string_lits` sees the literals of the templates (evaluating `String.toList` costs ten times as much)
  unfold ddlStatus Spec.ddlStatus statusPrefix statusSuffix
  simp only [DdlKind.named, if_true]
  string_lits
  decide

/-- known finding `C04/ddl-quote-in-name`: a quoted name containing `'` makes the status select
    (and the table-comment side-table insert) malformed: the statement has run, then a raw ParserException
    escapes. -/
theorem finding_C04_ddl_quote_in_name :
    statusSqlWellFormed .createTable ⟨['a', '\'', 'b'], true⟩ = false := by decide

/-- known finding `C04/comment-on-column-no-status`: COMMENT ON COLUMN returns no status row. -/
theorem finding_C04_comment_on_column_no_status (n : Ident) :
    ddlStatus .commentOnColumn n = none ∧ Spec.ddlStatus .commentOnColumn n false = some successText.toList :=
  ⟨rfl, rfl⟩

/-- The full DDL-status statement does not hold for the code as it is (witness: `C04/ddl-status-if-exists-noop`). -/
theorem C04_ddl_full_false : ¬ C04_ddl_Full := fun h =>
  finding_C04_ddl_status_if_exists_noop (h .createTable ⟨['t'], false⟩ true).2

/-- `C04/zero-rowcount` (repaired): with `affected_count or num_rows`, a DELETE on an empty table reported
    rowcount 1 while its own status row said 0. -/
theorem C04_old_zero_rowcount :
    (Impl.stepOld [⟨1, []⟩] (.delete 0 none)).map (fun r => (r.2.rowcount, statusCount r.2)) = .ok (1, some 0) ∧
    (Impl.step [⟨1, []⟩] (.delete 0 none)).map (fun r => (r.2.rowcount, statusCount r.2)) = .ok (0, some 0) := by
  decide

/-- `C04/truncate-status` (repaired): under `Impl.stepOld` TRUNCATE returns DuckDB's bare count row instead of a status. -/
theorem C04_old_truncate_no_status :
    (Impl.stepOld [⟨1, [[some 5], [none]]⟩] (.truncate 0)).map (fun r => r.2.rows) = .ok [[.int 2]] := by decide

/-- a history with NULLs, duplicates, a column list, a self-insert, a swap, an always-unknown predicate and
    a failing statement in the middle -/
example :
    (runWith Impl.step [⟨2, [[some 1, none], [some 1, none], [none, some 3]]⟩, ⟨2, []⟩]
      [ .insert 1 (some [1]) (.select 0 (some [.opnd (.col 0)]) (some (.isNull (.col 1)))),
        .delete 0 (some (.cmp (.col 0) .eq (.lit none))),
        .insert 5 none (.values 2 [[some 1, some 2]]),
        .update 0 [(0, .opnd (.col 1)), (1, .opnd (.col 0))] (some (.notNull (.col 0))),
        .delete 1 none ]) =
    ([ .ok ⟨["number of rows inserted"], [[.int 2]], 2⟩,
       .ok ⟨["number of rows deleted"], [[.int 0]], 0⟩,
       .error .catalog,
       .ok ⟨["number of rows updated", "number of multi-joined rows updated"], [[.int 2, .int 0]], 2⟩,
       .ok ⟨["number of rows deleted"], [[.int 2]], 2⟩ ],
     [⟨2, [[none, some 1], [none, some 1], [none, some 3]]⟩, ⟨2, []⟩]) := rfl

example : DdlEnv .createTable ⟨['m', 'y', ' ', 't'], true⟩ false := by unfold DdlEnv; decide
example : Counted (.update 0 [] none) := trivial

end Fs.C04
