import Fs.Proofs.Connect
/-!
# C14 — connect() does what its options say in every configuration

Everything is about `Fs.Connect.connect`, the model of `FakeSnow.connect` + `FakeSnowflakeConnection.__init__` (conn.py:44-104) **after** the repair
`C14/schema-without-db`, for *arbitrary* option values and *arbitrary* catalog states `w`;
`C14_shipped_schema_without_db` is the regression witness for the code as shipped; `finding_C14_auto_create_db_named_like_builtin_schema`
is the witness of the recorded finding that makes the full statement `C14_Full` false, and `InEnv` the envelope of the partial theorems,
which are corollaries of `Fs.Connect.connect_eq` (`Fs/Proofs/Connect.lean`).
`harness/props/c14.py` ties the model to the real code on the complete 1152-configuration product.
-/
namespace Fs.C14
open Fs.Connect

/-- the full statement: the ladder is the declarative specification for all options and all catalog states -/
def C14_Full : Prop := ∀ (o : Opts) (w : World), connect o w = Spec.connect o w

/-- envelope: connect does not have to attach a database named like a built-in DuckDB schema (MAIN, INFORMATION_SCHEMA,
    PG_CATALOG).  Connecting to such a database when it already exists is inside the envelope. -/
def InEnv (o : Opts) (w : World) : Prop := bootstrapFails o w = false

instance (o : Opts) (w : World) : Decidable (InEnv o w) := by unfold InEnv; infer_instance

/-- Known finding `C14/auto-create-db-named-like-builtin-schema`: `C14_Full` is false — with create_database_on_connect=True,
    `connect(database="main")` on an empty instance attaches MAIN and then raises from the bootstrap instead of returning
    a session with current database MAIN. -/
theorem finding_C14_auto_create_db_named_like_builtin_schema : ¬ C14_Full := by
  intro h
  have := h { database := some ['m', 'a', 'i', 'n'], schema := none, createDb := true, createSchema := true, dbPath := false }
            { attached := [], disk := [], paths := [] }
  revert this
  decide +kernel

/-- **The ladder is the declarative specification** (partial: inside `InEnv`): for all option values (names in any letter
    case, given or not, both flags, with or without db_path) and all catalog states, `connect` succeeds and returns exactly
    the session and the catalog state that `Spec.connect` describes: the database is created iff allowed ∧ named ∧ absent;
    the schema iff allowed ∧ named ∧ its database is there afterwards ∧ absent; the session has a current database /
    schema iff they exist afterwards; names are reported upper-cased. -/
theorem C14_conforms_partial (o : Opts) (w : World) (he : InEnv o w) : connect o w = Spec.connect o w := by
  rw [connect_eq, show bootstrapFails o w = false from he]
  rfl

/-- **connect succeeds in every configuration** of the envelope -/
theorem C14_succeeds (o : Opts) (w : World) (he : InEnv o w) : ∃ s, (connect o w).1 = .ok s := by
  rw [C14_conforms_partial o w he]; exact ⟨_, rfl⟩

/-- **Current database / schema exactly when the objects exist, names reported upper-cased either way**: whatever
    the configuration, after connect the session's `database_set` (`schema_set`) flag equals the existence of the
    requested database (schema) in the catalog state connect leaves behind, and `conn.database` / `conn.schema`
    are the requested names upper-cased. -/
theorem C14_context_iff_exists (o : Opts) (w : World) (he : InEnv o w) (s : Session) (h : (connect o w).1 = .ok s) :
    s.database = o.database.map upper ∧ s.schema = o.schema.map upper ∧
    s.databaseSet = (truthy o.db && dbExists (connect o w).2 o.DB) ∧
    s.schemaSet = (truthy o.db && truthy o.sc && schemaExists (connect o w).2 o.DB o.SC) := by
  rw [C14_conforms_partial o w he] at h ⊢
  cases h
  -- the existence queries read only `attached`, which rung 3 leaves as `Spec.afterSchema o w` has it
  exact ⟨rfl, rfl, (dbExists_afterSchema o w).symm, (schemaExists_afterSchema o w).symm⟩

/-- **Nothing else is created**: with `create_database_on_connect = False` no catalog is attached and no file is
    made; with `create_schema_on_connect = False` every catalog that was there is exactly as it was. -/
theorem C14_creates_only_allowed (o : Opts) (w : World) (he : InEnv o w) :
    (o.createDb = false → (connect o w).2.attached.map (·.name) = w.attached.map (·.name) ∧ (connect o w).2.disk = w.disk) ∧
    (o.createSchema = false → ∀ c ∈ w.attached, c ∈ (connect o w).2.attached) := by
  obtain ⟨p, hp⟩ := Spec.connect_snd o w
  rw [C14_conforms_partial o w he, hp]
  dsimp only
  constructor
  · intro h
    rw [names_afterSchema, disk_afterSchema, afterDb_of_not_createDb w h]
    exact ⟨rfl, rfl⟩
  · intro h c hc
    rw [afterSchema_of_not_createSchema w h]
    exact mem_afterDb o hc

/-- **Connecting never disturbs existing data or other sessions**: every catalog that existed is still there under
    the same name and storage with all its schemas and their content, in order (a schema may have been appended);
    every database file is still there; the search path of every other session's cursor is what it was, and the new
    session uses a fresh cursor. -/
theorem C14_frame (o : Opts) (w : World) (he : InEnv o w) :
    (∀ c ∈ w.attached, ∃ c' ∈ (connect o w).2.attached, c'.name = c.name ∧ c'.file = c.file ∧ c.schemas <+: c'.schemas) ∧
    w.disk <+: (connect o w).2.disk ∧
    (connect o w).2.paths.take w.paths.length = w.paths ∧
    (connect o w).2.paths.length = w.paths.length + 1 ∧
    (connect o w).2.nextConn = w.nextConn + 1 := by
  obtain ⟨p, hp⟩ := Spec.connect_snd o w
  rw [C14_conforms_partial o w he, hp]
  dsimp only
  rw [disk_afterSchema]
  exact ⟨fun c hc => mem_afterSchema o hc, disk_afterDb o w, List.take_left' rfl, List.length_append, rfl⟩

/-- **Letter case does not matter**: two calls whose database and schema names differ only in letter case do
    exactly the same. -/
theorem C14_letter_case (o o' : Opts) (w : World) (he : InEnv o w) (he' : InEnv o' w)
    (hd : o.database.map upper = o'.database.map upper) (hs : o.schema.map upper = o'.schema.map upper)
    (h1 : o.createDb = o'.createDb) (h2 : o.createSchema = o'.createSchema) (h3 : o.dbPath = o'.dbPath) :
    connect o w = connect o' w := by
  rw [C14_conforms_partial o w he, C14_conforms_partial o' w he']
  exact Spec.connect_congr w hd hs h1 h2 h3

/-- Regression witness for the repaired defect `C14/schema-without-db`: as shipped, with
    `create_database_on_connect=False`, `create_schema_on_connect=True` and the database missing, connect raised a raw
    BinderException instead of returning a connection without a current database. -/
theorem C14_shipped_schema_without_db :
    let o : Opts := { database := some ['d', 'b', '1'], schema := some ['s', '1'], createDb := false, createSchema := true, dbPath := false }
    let w : World := { attached := [], disk := [], paths := [] }
    (connectShipped o w).1 = .binderError ∧
    (connect o w).1 = .ok ⟨some ['D', 'B', '1'], some ['S', '1'], false, false, 0⟩ := by decide +kernel

/-- a configuration that creates the database from an existing file and the schema in it, next to another session and
    another catalog -/
example :
    let o : Opts := { database := some ['d', 'B'], schema := some ['s'], createDb := true, createSchema := true, dbPath := true }
    let w : World := { attached := [⟨['X'], [(['T'], 7)], false⟩], disk := [(['D', 'B'], [(['K'], 3)])],
                       paths := [(0, some (['X'], ['T']))], nextConn := 1 }
    connect o w =
      (.ok ⟨some ['D', 'B'], some ['S'], true, true, 1⟩,
       { attached := [⟨['X'], [(['T'], 7)], false⟩, ⟨['D', 'B'], [(['K'], 3), (['S'], 0)], true⟩],
         disk := [(['D', 'B'], [(['K'], 3)])],
         paths := [(0, some (['X'], ['T'])), (1, some (['D', 'B'], ['S']))], nextConn := 2 }) := by decide +kernel

/-- connecting to a database named MAIN that already exists is inside the envelope, and gives it as current database -/
example :
    let o : Opts := { database := some ['M', 'a', 'i', 'n'], schema := none, createDb := true, createSchema := true, dbPath := false }
    let w : World := { attached := [⟨['M', 'A', 'I', 'N'], [], false⟩], disk := [], paths := [] }
    InEnv o w ∧ (connect o w).1 = .ok ⟨some ['M', 'A', 'I', 'N'], none, true, false, 0⟩ := by decide +kernel

end Fs.C14
