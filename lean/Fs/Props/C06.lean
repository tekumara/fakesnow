import Fs.Proofs.Descr
import Fs.Proofs.StrLit
/-!
# C06 — cursor.description matches the result of every executed statement

`Fs.Descr` models `fakesnow/types.py` (`duckdb_to_sf_type`, `describe_as_rowtype`, the `DECIMAL(p,s)` regex), what `description` re-describes per
statement kind (`describeLast`, cursor.py:113-123,353) and the cursor/connection fields `description` and
`describe()` touch.  DuckDB's DESCRIBE typing and pyarrow's Python types (`pyOf`) are modelled engine
behaviour, tied by the correspondence check.
-/
namespace Fs.C06
open Fs.Descr

/-- **DECIMAL(p,s) round trip**: for every precision and scale, the regex of `describe_as_rowtype` reads back
    exactly the numbers DuckDB's DESCRIBE printed, and the column comes out as FIXED with that precision/scale. -/
theorem C06_decimal_parse (p s : Nat) :
    searchDec (renderDecimal p s) = some (p, s) ∧
    asColumnInfo (renderDecimal p s) = some { type := .fixed, precision := some p, scale := some s } :=
  ⟨searchDec_renderDecimal p s, asColumnInfo_renderDecimal p s⟩

/-- **A DECIMAL without parameters** (`DECIMAL`) is FIXED(38,0), as the code's `else 38 / else 0` says. -/
theorem C06_decimal_default : asColumnInfo "DECIMAL".toList = some { type := .fixed, precision := some 38, scale := some 0 } := by
  simp only [asColumnInfo_rows]

/-- **Type table**: every DuckDB type of the dictionary maps to the Snowflake type code, precision, scale and
    length the connector expects (FIXED=0 38/0, REAL=1, TEXT=2 with 16 MiB, DATE=3, VARIANT=5, TIMESTAMP_TZ=7,
    TIMESTAMP_NTZ=8, BINARY=11 with 8 MiB, TIME=12, BOOLEAN=13; time-like types precision 0 scale 9). -/
theorem C06_type_table :
    (["BIGINT", "INTEGER", "HUGEINT", "DOUBLE", "VARCHAR", "DATE", "JSON", "TIMESTAMP WITH TIME ZONE", "TIMESTAMP",
      "TIMESTAMP_NS", "BLOB", "TIME", "BOOLEAN"].map fun t =>
        (asColumnInfo t.toList).map fun ci => (ci.type.code, ci.precision, ci.scale, ci.length)) =
    [some (0, some 38, some 0, none), some (0, some 38, some 0, none), some (0, some 38, some 0, none),
     some (1, none, none, none), some (2, none, none, some 16777216), some (3, none, none, none),
     some (5, none, none, none), some (7, some 0, some 9, none), some (8, some 0, some 9, none),
     some (8, some 0, some 9, none), some (11, none, none, some 8388608), some (12, some 0, some 9, none),
     some (13, none, none, none)] := by
  simp only [List.map, asColumnInfo_rows]
  rfl

/-- **Types agree with values**: for every non-decimal type of the dictionary except HUGEINT, the described
    Snowflake type matches the Python type of the fetched value (FIXED scale 0 ↔ int, REAL ↔ float, TEXT/VARIANT ↔
    str, DATE, TIME, TIMESTAMP_NTZ/TZ ↔ datetime, BINARY ↔ bytes, BOOLEAN ↔ bool). -/
theorem C06_agrees_table :
    (["BIGINT", "INTEGER", "DOUBLE", "VARCHAR", "DATE", "JSON", "TIMESTAMP WITH TIME ZONE", "TIMESTAMP",
      "TIMESTAMP_NS", "BLOB", "TIME", "BOOLEAN"].all fun t =>
        match asColumnInfo t.toList, pyOf t.toList with
        | some ci, some py => agrees ci py
        | _, _ => false) = true := by decide +kernel

/-- **… and for decimals with a fractional part**: DECIMAL(p,s) with s > 0 is FIXED scale s ↔ Decimal, for all p, s. -/
theorem C06_agrees_decimal (p s : Nat) (hs : 0 < s) :
    ∃ ci, asColumnInfo (renderDecimal p s) = some ci ∧ pyOf (renderDecimal p s) = some .decimal ∧ agrees ci .decimal = true :=
  ⟨_, asColumnInfo_renderDecimal p s, pyOf_of_isDecimal (isDecimal_renderDecimal p s), decide_eq_true hs⟩

/-- **One entry per result column, by position**: whatever the column names are — repeated names from self joins, `a.*, b.*`, the
    same alias twice — the description has exactly as many entries as DESCRIBE returned rows, with the same names in the same
    order, and the i-th entry carries the i-th column's own type. -/
theorem C06_rowtype_positional (rows : List (List Char × List Char)) (out : List (List Char × ColumnInfo))
    (h : describeAsRowtype rows = some out) :
    out.length = rows.length ∧ out.map (·.1) = rows.map (·.1) ∧
    ∀ (i : Nat) (n t : List Char), rows[i]? = some (n, t) → ∃ ci, asColumnInfo t = some ci ∧ out[i]? = some (n, ci) := by
  induction rows generalizing out with
  | nil => cases h; exact ⟨rfl, rfl, fun _ _ _ hi => nomatch hi⟩
  | cons r rest ih =>
    rw [describeAsRowtype] at h
    split at h
    next ci out' hci hr =>
      cases h
      obtain ⟨h1, h2, h3⟩ := ih out' hr
      refine ⟨congrArg (· + 1) h1, congrArg (r.1 :: ·) h2, fun i n t hi => ?_⟩
      cases i with
      | zero => cases hi; exact ⟨ci, hci, rfl⟩
      | succ j => exact h3 j n t hi
    next => cases h

/-- witness: keyed by name, `select 1 as a, 'x' as a` is described by ONE entry, and it has the second column's type. -/
theorem C06_by_name_loses_columns :
    (describeAsRowtypeByName [("A".toList, "INTEGER".toList), ("A".toList, "VARCHAR".toList)]).map (fun o => o.map fun e => e.2.type) = some [.text] ∧
    (describeAsRowtype [("A".toList, "INTEGER".toList), ("A".toList, "VARCHAR".toList)]).map (fun o => o.map fun e => e.2.type) = some [.fixed, .text] := by
  have hi : asColumnInfo "INTEGER".toList = some { type := .fixed, precision := some 38, scale := some 0 } := by
    simp only [asColumnInfo_rows]
  have hv : asColumnInfo "VARCHAR".toList = some { type := .text, length := some 16777216, byteLength := some 16777216 } := by
    simp only [asColumnInfo_rows]
  rw [describeAsRowtypeByName_dup hi hv, describeAsRowtype_cons hi (describeAsRowtype_cons hv rfl)]
  exact ⟨rfl, rfl⟩

/-- the full statement over declared types: description reports the declared type code, precision and scale -/
def C06_declared_Full : Prop := ∀ d, describedCore d = some (declaredCore d)

/-- **Declared types**: for every declared Snowflake type outside the recorded finding region — in particular `NUMBER(p)` and
    `NUMBER(p,s)` for ALL p, s (precision and scale are the declared ones, not 38/0), every integer / float / text spelling, and
    `TIMESTAMP_NTZ(p)` for every p (always a plain TIMESTAMP, never an unmapped unit type) — the composition of the rewrites' type
    mapping and `types.py` yields exactly the declared type code, precision and scale. -/
theorem C06_declared_partial (d : Decl) (h : declFinding d = none) : describedCore d = some (declaredCore d) := by
  rw [describedCore_eq, if_pos h]

/-- known finding `C06/type-unmapped`, declared-type side: `TIMESTAMP(3)` / `DATETIME(3)` become TIMESTAMP_MS and description raises. -/
theorem finding_C06_declared_timestamp_precision : describedCore (.tsPlain (some 3)) = none ∧ ¬ C06_declared_Full :=
  have h3 : describedCore (.tsPlain (some 3)) = none := describedCore_eq _
  ⟨h3, fun h => nomatch h3.symm.trans (h _)⟩

/-- the full "types agree with values" statement over everything DuckDB can hand back in this model -/
def C06_agrees_Full : Prop :=
  ∀ t ci py, asColumnInfo t = some ci → pyOf t = some py → agrees ci py = true

/-- known finding `C06/fixed-scale0-decimal-value`: DECIMAL(p,0) and HUGEINT columns are described as FIXED scale 0
    (right) but their values are fetched as `Decimal`, not `int` (the value side is C01's subject). -/
theorem finding_C06_fixed_scale0_decimal_value :
    (∃ ci, asColumnInfo "HUGEINT".toList = some ci ∧ pyOf "HUGEINT".toList = some .decimal ∧ agrees ci .decimal = false) ∧
    (∃ ci, asColumnInfo (renderDecimal 10 0) = some ci ∧ pyOf (renderDecimal 10 0) = some .decimal ∧ agrees ci .decimal = false) :=
  ⟨⟨{ type := .fixed, precision := some 38, scale := some 0 }, by simp only [asColumnInfo_rows], by decide +kernel, rfl⟩,
   ⟨_, asColumnInfo_renderDecimal 10 0, pyOf_of_isDecimal (isDecimal_renderDecimal 10 0), rfl⟩⟩

/-- so the full "types agree with values" statement is false (DECIMAL(10,0) is the witness) -/
theorem C06_agrees_full_false : ¬ C06_agrees_Full := fun h =>
  let ⟨_, h1, h2, h3⟩ := finding_C06_fixed_scale0_decimal_value.2
  nomatch (h _ _ _ h1 h2).symm.trans h3

/-- known finding `C06/type-unmapped`: DuckDB types outside the dictionary (lists, UUID, INTERVAL, …) make
    `description` raise NotImplementedError. -/
theorem finding_C06_type_unmapped :
    asColumnInfo "INTEGER[]".toList = none ∧ asColumnInfo "UUID".toList = none ∧ asColumnInfo "INTERVAL".toList = none := by
  simp only [asColumnInfo_rows, and_self]

/-- regression witness for the repaired defect `C06/type-unmapped:HUGEINT`: without the dictionary entry the
    lookup of `HUGEINT` (the type of `sum(<integer>)`, MERGE counts, big integer literals) fails. -/
theorem C06_old_hugeint_unmapped : lookup "HUGEINT".toList (table.filter (·.1 != "HUGEINT")) = none :=
  lookup_filter_ne

/-- the full statement: after every successfully executed statement `description` is that statement's -/
def C06_available_Full : Prop := ∀ k, k ≠ .beforeExecute → describeLast k = .ofResult

/-- **Availability, partial**: after queries (incl. SHOW/DESCRIBE rewritten to selects) and after every statement
    answered with a status select (DML, DDL, SET/UNSET, no-op'd statements, COMMENT, TRUNCATE, BEGIN/COMMIT/ROLLBACK/USE:
    all of kind `statusSelect`), `description` describes exactly the statement's own result. -/
theorem C06_available_partial (k : Kind) (h : k = .query ∨ k = .statusSelect) : describeLast k = .ofResult := by
  rcases h with rfl | rfl <;> rfl

/-- known finding `C06/describe-seeded-query`: for `RANDOM(seed)`, `_last_sql` is
    `SELECT setseed(..); <query>` and DESCRIBE describes the `setseed` call. -/
theorem finding_C06_describe_seeded_query : describeLast .seededQuery = .ofOther := rfl

/-- known finding `C06/describe-raw-command`: statements passed through as DuckDB commands (SHOW DATABASES,
    EXPLAIN) cannot be re-described: `description` raises. -/
theorem finding_C06_describe_raw_command : describeLast .rawCommand = .raises := rfl

/-- known finding `C06/describe-before-execute`: before any execute, `description` raises a 2003 error about
    a table named None instead of returning None. -/
theorem finding_C06_describe_before_execute : describeLast .beforeExecute = .raises := rfl

/-- so the full availability statement is false (a seeded query is the witness) -/
theorem C06_available_full_false : ¬ C06_available_Full := fun h =>
  nomatch h .seededQuery (by decide)

/-- **Reading `description` changes nothing**: for every engine whose DESCRIBE leaves the engine state alone,
    every connection and every cursor: data, session and *all* cursors (this one's pending result set, fetch
    position, rowcount, sqlstate included) are exactly what they were. -/
theorem C06_description_pure {D S R Q} (e : Engine D R Q) (hpure : ∀ d q p, (e.describe d q p).1 = d)
    (c : Conn D S R Q) (i : Nat) : (description e c i).1 = c := by
  unfold description
  cases c.cursors[i]? with
  | none => rfl
  | some cur => simp [hpure]

/-- **`description` depends on the last execution only**: two cursors (on connections with the same engine state)
    whose last executed SQL and parameters are equal get the same description — whatever else they hold and
    whatever they executed or described before.  In particular a cursor that re-executes a text after the catalog
    changed, or with differently typed parameters, is described like a fresh cursor would be. -/
theorem C06_description_last_only {D S R Q} (e : Engine D R Q) (c c' : Conn D S R Q) (i j : Nat) (cur cur' : Cur R Q)
    (hd : c.duck = c'.duck) (hi : c.cursors[i]? = some cur) (hj : c'.cursors[j]? = some cur')
    (hsql : cur.lastSql = cur'.lastSql) (hpar : cur.lastParams = cur'.lastParams) :
    (description e c i).2 = (description e c' j).2 := by
  simp [description, hi, hj, hd, hsql, hpar]

/-- **`describe(q)` does not execute `q`**: only the engine's DESCRIBE is called; data, session and every *other*
    cursor are unchanged, the cursor itself now holds the DESCRIBE rows (as after any execute). -/
theorem C06_describe_pure {D S R Q} (e : Engine D R Q) (hpure : ∀ d q p, (e.describe d q p).1 = d) (descOf : Q → Q)
    (c : Conn D S R Q) (i : Nat) (q : Q) (params : Option Q) :
    (describe e descOf c i q params).1.duck = c.duck ∧ (describe e descOf c i q params).1.session = c.session ∧
    (describe e descOf c i q params).1.cursors.length = c.cursors.length ∧
    ∀ j, j ≠ i → (describe e descOf c i q params).1.cursors[j]? = c.cursors[j]? := by
  unfold describe
  cases c.cursors[i]? with
  | none => exact ⟨rfl, rfl, rfl, fun _ _ => rfl⟩
  | some cur => exact ⟨hpure _ _ _, rfl, List.length_set, fun j hj => List.getElem?_set_ne (Ne.symm hj)⟩

/-- **`describe(q)` = `description` after executing `q`**: both hand `DESCRIBE q` with the same parameters to the
    engine and convert the rows with the same function, so for a pure DESCRIBE they return the same thing. -/
theorem C06_describe_eq_description {D S R Q} (e : Engine D R Q) (descOf : Q → Q) (c : Conn D S R Q) (i : Nat) (q : Q)
    (params : Option Q) (cur : Cur R Q) (hc : c.cursors[i]? = some cur) (hlast : cur.lastSql = some q)
    (hpar : cur.lastParams = params) :
    (describe e descOf c i q params).2 = (description e c i).2 := by
  simp [describe, description, hc, hlast, hpar]

/-- **`execute_string`: every returned cursor describes its own statement**: the i-th cursor of a script is described by
    `DESCRIBE <statement i>` — not by the last statement of the script — whatever the other statements are. -/
theorem C06_script_cursor_own_description {D S R Q} (e : Engine D R Q) (d : D) (s : S) (stmts : List Q) (i : Nat) (q : Q)
    (hq : stmts[i]? = some q) :
    (description e ⟨d, s, scriptCursors stmts⟩ i).2 = (e.describe d (some q) none).2 := by
  simp [description, scriptCursors, List.getElem?_map, hq]

/-- **`describe()` of a seeded query sends no `setseed`**: the seed prefix is added only when the *top-level*
    statement carries the seed; under a DESCRIBE wrapper exactly one statement — the DESCRIBE — is sent, so the
    session's random generator is not touched.  (Executing the seeded query itself does send the prefix.) -/
theorem C06_describe_sends_no_setseed (seed : Option Nat) :
    sent ⟨true, seed⟩ = [.statement] ∧ (∀ s, sent ⟨false, some s⟩ = [.setseed s, .statement]) ∧ sent ⟨false, none⟩ = [.statement] :=
  ⟨rfl, fun _ => rfl, rfl⟩

/-- **Reading `description` twice gives the same answer**: with a pure DESCRIBE, a second read (no execute in between) returns
    what the first returned — the answer is a function of the cursor's stored SQL/parameters and the engine state only.
    (That the stored parameters are the cursor's own copy, out of the caller's reach, is not in the model: the check samples it.) -/
theorem C06_description_stable {D S R Q} (e : Engine D R Q) (hpure : ∀ d q p, (e.describe d q p).1 = d) (c : Conn D S R Q) (i : Nat) :
    (description e (description e c i).1 i).2 = (description e c i).2 := by
  rw [C06_description_pure e hpure c i]

/-- the full statement for `describe(q)` over statement kinds: it returns the description `q` would have -/
def C06_describe_Full : Prop := ∀ k, k ≠ .beforeExecute → describeOf k = .ofResult

/-- **`describe(q)`, partial**: for queries (also seeded ones) `describe(q)` yields the query's own columns. -/
theorem C06_describe_partial (k : Kind) (h : k = .query ∨ k = .seededQuery) : describeOf k = .ofResult := by
  rcases h with rfl | rfl <;> rfl

/-- known finding `C06/describe-non-query`: `describe()` of DML, DDL, USE, SET, BEGIN … raises (`DESCRIBE insert …` is not a
    statement) instead of returning the status-row description the statement would have; it changes nothing, though
    (`C06_describe_pure`). -/
theorem finding_C06_describe_non_query : describeOf .statusSelect = .raises ∧ ¬ C06_describe_Full :=
  ⟨rfl, fun h => nomatch h .statusSelect (by decide)⟩

example : searchDec "DECIMAL(10,2)".toList = some (10, 2) := by string_lits; decide +kernel
example : renderDecimal 38 10 = "DECIMAL(38,10)".toList := by string_lits; decide +kernel

end Fs.C06
