import Fs.Proofs.MergeCounts
/-!
# C12 — MERGE leaves the target as Snowflake's MERGE would, with true counts   (partial)

`Fs.Merge.impl` is the code's decomposition (merge_candidates + one DELETE/UPDATE/INSERT per clause re-joined on
the key, transforms_merge.py); `Fs.Merge.spec` is MERGE semantics (per joined pair the first applicable clause,
unmatched source rows inserted by the first applicable insert clause, every other row untouched).
Partial: the full refinement is false (see `finding_C12_over_delete`); it is proved under H1/H2.
-/
namespace Fs.C12
open Fs.Merge

/-- The full statement the property asks for on every deterministic merge. It is FALSE for the code as it is
    (`C12_full_false`), which is the recorded finding `C12/over-delete`. -/
def C12_Full : Prop := ∀ cs tgt src, H1c tgt src → (impl cs tgt src).Perm (spec cs tgt src)

/-- witness: two target rows share a key, the clause conditions look at target columns -/
def csW : List Clause :=
  [.mDelete (fun t _ => t.vals.getD 0 0 == 1), .mUpdate (fun _ _ => true) (fun old sv => [old.getD 0 0, sv.getD 0 0])]
def tgtW : List TRow := [⟨some [1], [1, 10]⟩, ⟨some [1], [2, 20]⟩, ⟨some [2], [1, 30]⟩]
def srcW : List SRow := [⟨some [1], [99]⟩, ⟨some [3], [77]⟩]

/-- **Finding C12/over-delete**: the DELETE of clause 0 is re-joined on the key only, so it also removes the
    row (1,2,20) whose own clause is the UPDATE: the decomposition over-deletes. -/
theorem finding_C12_over_delete : ¬ (impl csW tgtW srcW).Perm (spec csW tgtW srcW) :=
  fun h => absurd h.length_eq (by decide)

theorem C12_full_false : ¬ C12_Full := by
  intro h
  exact finding_C12_over_delete (h csW tgtW srcW (h1cb_iff.mp (by decide)))

/-- **C12_partial — target contents**: when each target row joins at most one source row *value* (H1: equal duplicate
    source rows are allowed; every deterministic merge, `H1c`, satisfies it: `H1c_H1`) and all target rows joining one
    source row select the same clause (H2: e.g. unique target keys, or conditions over source columns only), the
    code's decomposition leaves the target equal, as a multiset of rows, to MERGE semantics — for every clause list
    with arbitrary conditions, arbitrary key-preserving UPDATE assignments (`f old source`) and arbitrary INSERT row
    builders (`mk source`, inserting the source key), every row shape (composite keys, any number of columns), every
    target and source (duplicates, NULL keys, empty tables). -/
theorem C12_partial {cs tgt src} (h1 : H1 tgt src) (h2 : H2 cs tgt src) :
    (impl cs tgt src).Perm (spec cs tgt src) := by
  rw [impl_eq_specRows_ins h1 h2]
  exact ins_perm.append_left _

/-- the Boolean envelope the driver evaluates is exactly the hypotheses of `C12_partial` (`H1`, `H2`) and of
    `C12_counts` (`H1c`) -/
theorem C12_envelope {cs tgt src} : (h1b tgt src = true ↔ H1 tgt src) ∧ (h1cb tgt src = true ↔ H1c tgt src) ∧
    (h2b cs tgt src = true ↔ H2 cs tgt src) :=
  ⟨h1b_iff, h1cb_iff, h2b_iff⟩

/-- **Counts**: for every deterministic merge (each target row joins at most one source row, duplicates
    counted) with at least one candidate row, each reported count (COUNT_IF over merge_candidates) equals the
    number of rows MERGE semantics inserts / updates / deletes. -/
theorem C12_counts {cs tgt src} (h : H1c tgt src) (k : Kind) (hne : (cands cs tgt src).isEmpty = false) :
    implCount cs tgt src k = some (specCount cs tgt src k) := by
  rw [← cands_count_eq_specCount h k, implCount, if_neg (by simp [hne])]
  rfl

/-- **Finding C12/counts-null-no-candidates**: with no candidate row at all the true counts are 0,
    but COUNT_IF over the empty helper table reports NULL. -/
theorem finding_C12_counts_null {cs tgt src} (h : H1c tgt src) (k : Kind) (he : (cands cs tgt src).isEmpty = true) :
    implCount cs tgt src k = none ∧ specCount cs tgt src k = 0 := by
  refine ⟨by rw [implCount, if_pos he], ?_⟩
  rw [← cands_count_eq_specCount h k, List.isEmpty_iff.mp he]
  rfl

/-- Spec sanity ("every other row is untouched"): a target row that joins no source row is in the result. -/
theorem C12_spec_untouched {cs tgt src} {t : TRow} (ht : t ∈ tgt) (hn : ∀ s ∈ src, on t s = false) :
    t ∈ spec cs tgt src := by
  refine List.mem_append_left _ (List.mem_filterMap.mpr ⟨t, ht, ?_⟩)
  rw [specRow, List.find?_eq_none.mpr fun s hs => by simp [hn s hs]]

/-- Spec sanity ("unmatched source rows are inserted"): a source row joining no target row yields the row built by
    the first insert clause that applies to it. -/
theorem C12_spec_inserts {cs tgt src} {s : SRow} (hs : s ∈ src) (hn : ∀ t ∈ tgt, on t s = false)
    {i : Nat} (hi : opN cs s = some i) : mkRowAt cs i s ∈ spec cs tgt src := by
  rw [spec, specInserts_eq]
  exact List.mem_append_right _ (List.mem_map_of_mem (a := (⟨s, i⟩ : Cand)) (mem_candsN.mpr ⟨hs, hn, hi⟩))

-- a case inside the envelope of `C12_partial` and `C12_counts`: a shared target key, NULL keys on both sides, all three kinds
def csE : List Clause :=
  [.mDelete (fun _ s => s.vals.getD 0 0 == 0), .mUpdate (fun _ _ => true) (fun old sv => [old.getD 0 0, sv.getD 0 0]),
   .nInsert (fun _ => true) (fun sv => [0, sv.getD 0 0])]
def tgtE : List TRow := [⟨some [1], [1, 10]⟩, ⟨some [1], [2, 20]⟩, ⟨some [2], [1, 30]⟩, ⟨none, [0, 0]⟩]
def srcE : List SRow := [⟨some [1], [99]⟩, ⟨some [2], [0]⟩, ⟨some [3], [77]⟩, ⟨none, [5]⟩]
example : H1c tgtE srcE ∧ H1 tgtE srcE ∧ H2 csE tgtE srcE ∧ (cands csE tgtE srcE).isEmpty = false :=
  have h : H1c tgtE srcE := h1cb_iff.mp (by decide)
  ⟨h, H1c_H1 h, h2b_iff.mp (by decide +kernel), by decide⟩

/-! ### ON forms: the NULL-safe join is the ordinary join over re-encoded keys

The correspondence renders `ON t.k IS NOT DISTINCT FROM s.k` (NULL joins NULL) and sends the rows to the model with a NULL
key re-encoded as the key value `0,…,0`, which the generator never uses.  The theorem below is what makes every other
theorem of this file apply to that ON form unchanged: on well-formed keys the model's join over the encoded keys is
exactly NULL-safe equality of the original keys. -/

/-- NULL-safe key equality: NULL joins NULL, a value joins an equal value -/
def onNS (t : TRow) (s : SRow) : Bool := t.key == s.key

/-- the harness's encoding of a possibly-NULL key of `nk` columns -/
def encKey (nk : Nat) : Option (List Nat) → Option (List Nat)
  | none => some (List.replicate nk 0)
  | some k => some k

/-- keys the generator produces: `nk` columns, every value ≥ 1 -/
def KeyOk (nk : Nat) (k : Option (List Nat)) : Prop := ∀ l, k = some l → l.length = nk ∧ ∀ x ∈ l, 1 ≤ x

/-- a generated key (every value ≥ 1) is never the all-zero key that stands for NULL -/
theorem replicate_zero_ne_of_pos {nk : Nat} (h : 0 < nk) {l : List Nat} (hl : l.length = nk) (hp : ∀ x ∈ l, 1 ≤ x) :
    (List.replicate nk 0 == l) = false ∧ (l == List.replicate nk 0) = false := by
  subst hl
  have hne : List.replicate l.length 0 ≠ l := fun e =>
    Nat.not_succ_le_zero 0 (hp 0 (e ▸ List.mem_replicate.mpr ⟨Nat.ne_of_gt h, rfl⟩))
  exact ⟨beq_eq_false_iff_ne.mpr hne, beq_eq_false_iff_ne.mpr hne.symm⟩

theorem C12_nullsafe_encoding (nk : Nat) (h : 0 < nk) (t : TRow) (s : SRow) (ht : KeyOk nk t.key) (hs : KeyOk nk s.key) :
    on { t with key := encKey nk t.key } { s with key := encKey nk s.key } = onNS t s := by
  obtain ⟨tk, tv⟩ := t
  obtain ⟨sk, sv⟩ := s
  -- on constructors both sides compute: to a comparison with the all-zero key where exactly one key is NULL
  cases tk with
  | none =>
    cases sk with
    | none => exact beq_self_eq_true (List.replicate nk 0)
    | some l => exact (replicate_zero_ne_of_pos h (hs l rfl).1 (hs l rfl).2).1
  | some k =>
    cases sk with
    | none => exact (replicate_zero_ne_of_pos h (ht k rfl).1 (ht k rfl).2).2
    | some l => rfl

example : KeyOk 2 (some [1, 3]) ∧ KeyOk 2 none :=
  ⟨fun l hl => by cases hl; decide, fun l hl => nomatch hl⟩

end Fs.C12
