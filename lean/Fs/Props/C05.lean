import Fs.Proofs.Fetch
/-!
# C05 — fetch calls hand out every result row once, in order, at full width

The theorems about fetch sequences speak of `Fs.Fetch.run`, the model of `cursor.py`
`fetchone/fetchmany/fetchall/arraysize/_execute`-reset; the correspondence check (`harness/props/c05.py`) ties
`run` to the real cursor on every run.
-/
namespace Fs.C05
open Fs.Fetch

/-- cursor just after a statement that produced `rs`, with any arraysize -/
def executed {α} (rs : List α) (asz : Nat) : Cur α := { rows? := some rs, idx? := none, arraysize := asz }
def sexecuted {α} (rs : List α) (asz : Nat) : SCur α := { res? := some rs, pos := 0, arraysize := asz }

def NoExec {α} (ops : List (Op α)) : Prop := ∀ o ∈ ops, o.isExec = false

/-- not a clause of the property: where every theorem below starts the simulation -/
theorem sim_executed {α} (rs : List α) (asz : Nat) : Sim (executed rs asz) (sexecuted rs asz) := ⟨rfl, rfl, rfl⟩

/-- **Refinement**: from a fresh cursor, the code model answers every op sequence exactly like the
    abstract read-position cursor. -/
theorem C05_refines {α} (ops : List (Op α)) : (run ({} : Cur α) ops).1 = (srun ({} : SCur α) ops).1 :=
  (sim_run ⟨rfl, rfl, rfl⟩ ops).1

/-- **Exactly once, in order**: after a statement producing `rs`, for *every* sequence of fetchone /
    fetchmany(k) / fetchmany() / fetchall / arraysize changes, the rows handed out so far, concatenated,
    are a prefix of `rs` (result order, no row twice, no row skipped). -/
theorem C05_prefix {α} (rs : List α) (asz : Nat) (ops : List (Op α)) (h : NoExec ops) :
    handedAll (run (executed rs asz) ops).1 <+: rs := by
  rw [(sim_run (sim_executed rs asz) ops).1, srun_handed rfl rfl h]
  exact List.take_prefix _ _

/-- **Nothing is lost**: once a `fetchall` has been answered, the rows handed out, concatenated, *are*
    the result — every row exactly once. -/
theorem C05_fetchall_complete {α} (rs : List α) (asz : Nat) (ops : List (Op α)) (h : NoExec ops) :
    handedAll (run (executed rs asz) (ops ++ [.all])).1 = rs := by
  rw [(sim_run (sim_executed rs asz) _).1, srun_handed rfl rfl (noExec_concat h rfl)]
  exact List.take_of_length_le (srun_all_pos rfl h)

/-- **fetchone is the next row**: with `p` rows handed out so far, fetchone returns row `p` of the
    result, or None past the end.  (The statement allows a second alternative, the abstract read position at or past the
    end; the first holds in every case, `rs[p]?` being `none` there.) -/
theorem C05_fetchone_next {α} (rs : List α) (asz : Nat) (ops : List (Op α)) (h : NoExec ops) :
    (run (executed rs asz) (ops ++ [.one])).1.getLast? =
      some (.row (rs[(handedAll (run (executed rs asz) ops).1).length]?)) ∨
    rs.length ≤ (srun (sexecuted rs asz) ops).2.pos := by
  rw [(sim_run (sim_executed rs asz) _).1, (sim_run (sim_executed rs asz) ops).1]
  exact .inl (srun_fetchone_next rfl rfl h)

/-- **Exhaustion is for ever**: once `fetchall` has been answered, every later fetch (any kind, any
    arraysize) returns an empty list / None — never an error, never a row. -/
theorem C05_exhausted {α} (rs : List α) (asz : Nat) (ops more : List (Op α)) (h : NoExec ops) (hm : NoExec more) :
    ∀ o ∈ ((run (executed rs asz) (ops ++ [.all] ++ more)).1.drop (ops.length + 1)),
      o.handed = [] ∧ o ≠ .noResult := by
  rw [(sim_run (sim_executed rs asz) _).1, srun_append,
    List.drop_left' (by rw [srun_length, List.length_append, List.length_singleton])]
  exact srun_exhausted (srun_res rfl (noExec_concat h rfl)) (srun_all_pos rfl h) hm

/-- **No result set**: before any execute, every fetch raises the no-result-set error and nothing else. -/
theorem C05_no_result {α} (ops : List (Op α)) (h : NoExec ops) :
    ∀ o ∈ (run ({} : Cur α) ops).1, o = .noResult ∨ o = .unit :=
  run_no_result rfl h

/-- **fetch_pandas_all agrees with the rows**: at any point of any fetch sequence after a statement producing `rs`,
    `fetch_pandas_all` returns exactly `rs` (all of it, whatever has been fetched already) and leaves the read
    position where it was, so every later fetch answers as if it had not been called. -/
theorem C05_pandas_whole_result {α} (rs : List α) (asz : Nat) (ops more : List (Op α)) (h : NoExec ops) :
    (run (executed rs asz) (ops ++ .pandas :: more)).1 =
      (run (executed rs asz) ops).1 ++ .frame rs :: (run (run (executed rs asz) ops).2 more).1 := by
  have hrows : (run (executed rs asz) ops).2.rows? = some rs :=
    (sim_run (sim_executed rs asz) ops).2.1.trans (srun_res rfl h)
  simp only [run_append, run, step, hrows]

/-- **A failed execute leaves no result set**: whatever the cursor held, after an execute (or describe) that
    raised, every fetch raises the no-result-set error until the next successful execute — a stale result is
    never handed out. -/
theorem C05_failed_execute_no_result {α} (c : Cur α) (ops : List (Op α)) (h : NoExec ops) :
    ∀ o ∈ (run c (.fail :: ops)).1.tail, o = .noResult ∨ o = .unit :=
  run_no_result (c := (step c .fail).2) rfl h

/-- **A new execute replaces the old result set completely**: whatever happened before, after
    `execute` the cursor answers like a cursor that has only ever seen the new result (arraysize kept). -/
theorem C05_replace {α} (c : Cur α) (rs : List α) (ops : List (Op α)) :
    (run c (.exec rs :: ops)).1 = .unit :: (run (executed rs c.arraysize) ops).1 :=
  rfl

/-- **Full width**: a tuple row has one element per result column, in column order, whatever the names. -/
theorem C05_width {β} (r : Row β) : tupleColumnwise r = r.map (·.2) ∧ (tupleColumnwise r).length = r.length :=
  ⟨rfl, List.length_map _⟩

/-- **DictCursor**: when the column names are distinct, the dict row carries every value under its
    description name, in column order. -/
theorem C05_dict_keys {β} (r : Row β) (h : (r.map (·.1)).Nodup) : dictRow r = r := by
  induction r with
  | nil => rfl
  | cons p ps ih =>
    obtain ⟨hk, hps⟩ := List.nodup_cons.mp h
    -- no later column has the name of `p`, so its entry is added and the dict of the rest stays
    have : ps.find? (·.1 == p.1) = none :=
      List.find?_eq_none.mpr fun q hq hqk => hk (List.mem_map.mpr ⟨q, hq, beq_iff_eq.mp hqk⟩)
    simp only [dictRow, toDict, show toDict ps = ps from ih hps, this]

/-- Regression witness for the repaired defect `C05/dup-column-names`: building tuples through the
    per-row dict (the code before the `fix:` commit) loses a column when names repeat. -/
theorem C05_dict_path_loses_width :
    (tupleViaDict [("A", 1), ("A", 2)]).length ≠ ([("A", 1), ("A", 2)] : Row Nat).length := by decide +kernel

example : handedAll (run (executed [10, 11, 12, 13, 14] 2)
    [.one, .many 0, .setAs 1, .many 0, .many 3, .one, .all]).1 = [10, 11, 12, 13, 14] := by decide +kernel

end Fs.C05
