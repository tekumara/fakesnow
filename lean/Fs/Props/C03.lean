import Fs.Proofs.Names
/-!
# C03 — names resolve against each connection's own current database and schema

The statements of C03 over the simulation proved in `Fs/Proofs/Names.lean`, with the witnesses of the finding regions and of
the repaired defects, evaluated on small worlds.  `Impl` is the model of fakesnow's session bookkeeping
(`conn.py`, `cursor.py:225-335`, `transforms.set_schema`, `checks.py`) over the modelled DuckDB catalog and
search path; `Spec` is one `Ctx` per connection with names resolved from it alone; `World.abs` reads the context a
connection reports.  The correspondence check (`harness/props/c03.py`) ties `Impl.step`, `Spec.step` and `region`
to the real code on every run.

The full statement `C03_Full` is false on the current tree (`C03_full_false`); the `_partial` theorems prove it for
every history outside the finding regions recognised by `region`.  Each region has a `finding_*` witness, a step in it on
which the code deviates (`finding_merge_qualified_source` states the code's side only: the untranslated error); a region is
recognised by the shape of the statement and may also hold steps on which code and specification agree (`USE DATABASE` of a
missing database on a connection with a current schema).
-/
namespace Fs.C03
open Fs.Names

/-- what one step must satisfy: the code answers like the specification run on the reported contexts, leaves
    the world the specification leaves, and every connection stays coherent (reported names = `*_set` flags =
    DuckDB search path = catalog) -/
def StepOK (w : World) (i : Nat) (st : Stmt) : Prop :=
  (Impl.step w i st).1 = (Spec.step w.abs i st).1 ∧
  (Impl.step w i st).2.abs = (Spec.step w.abs i st).2 ∧
  (Impl.step w i st).2.coherent = true

/-- **Full statement of C03** on the model: from every coherent world, every statement on every connection. -/
def C03_Full : Prop := ∀ (w : World) (i : Nat) (st : Stmt), w.coherent = true → StepOK w i st

/-- a world with one connection in DB 11 / schema 21 -/
def w1 : World :=
  { cat := { dbs := [memoryDb, 11, 12], schemas := [(11, 21), (12, 21)], objs := [⟨11, 21, 31, .table, [7]⟩] },
    sessions := [⟨some 11, some 21, true, true, (11, 21)⟩] }

/-- two connections sharing DB 11 / schema 21, one connection without any context -/
def w2 : World :=
  { w1 with sessions := [⟨some 11, some 21, true, true, (11, 21)⟩, ⟨some 11, some 21, true, true, (11, 21)⟩,
                         ⟨none, none, false, false, (memoryDb, mainS)⟩] }

/-- The full statement does not hold for the code as it is (witness: `USE DATABASE` keeps the stale schema). -/
theorem C03_full_false : ¬ C03_Full := by
  intro h
  have := (h w1 0 (.useDb 12) (by decide +kernel)).2.1
  revert this; decide +kernel

/-- **C03 for one step, partial** (envelope: the step is outside every finding region): context bookkeeping,
    name resolution, 90105/90106 and the effect on the shared catalog are exactly the specification's, and
    coherence is preserved. -/
theorem C03_step_partial (w : World) (i : Nat) (st : Stmt) (hw : w.coherent = true) (henv : region w i st = none) :
    StepOK w i st :=
  step_refines hw henv

/-- **C03 for histories, partial**: for every history of connects and statements on any number of connections,
    started from an empty instance, whose steps stay outside the finding regions: every statement result equals the
    specification's, the final contexts and catalog are the specification's, and every connection is coherent. -/
theorem C03_history_partial (ops : List Op) (henv : clean World.init ops = true) :
    (Impl.run World.init ops).1 = (Spec.run World.init.abs ops).1 ∧
    (Impl.run World.init ops).2.abs = (Spec.run World.init.abs ops).2 ∧
    (Impl.run World.init ops).2.coherent = true :=
  run_refines rfl henv

/-- the same from any coherent world (the induction behind `C03_history_partial`) -/
theorem C03_history_from_partial (w : World) (ops : List Op) (hw : w.coherent = true) (henv : clean w ops = true) :
    (Impl.run w ops).1 = (Spec.run w.abs ops).1 ∧ (Impl.run w ops).2.abs = (Spec.run w.abs ops).2 ∧
    (Impl.run w ops).2.coherent = true :=
  run_refines hw henv

/-- **Set at connect** (any `create_database_on_connect` / `create_schema_on_connect`): the new connection's context
    is the named database / schema as far as they exist after the connect, existing connections keep theirs — with
    no envelope.  Partial part: all connections stay coherent unless the connect names something that is missing and
    not created (`connectRegion`: the connection then *reports* a database / schema it does not have). -/
theorem C03_connect (w : World) (d s : Option Name) (cd cs : Bool) :
    (Impl.connect w d s cd cs).abs = Spec.connect w.abs d s cd cs ∧
    (w.coherent = true → connectRegion w d s cd cs = none → (Impl.connect w d s cd cs).coherent = true) :=
  ⟨connect_refines w d s cd cs, connect_coherent⟩

/-- with the default create flags only a schema without a database is outside the envelope -/
theorem C03_connect_default (w : World) (d s : Option Name) (h : s.isSome → d.isSome) :
    connectRegion w d s true true = none := by
  cases d with
  | none =>
    cases s with
    | none => rfl
    | some s => cases h rfl
  | some d =>
    have hd : (w.cat.connDb d true).hasDb d = true := hasDb_ensureDb w.cat d
    cases s with
    | none => simp [connectRegion, Impl.newSession, Session.coherent, hd]
    | some s =>
      have hs : ((w.cat.connDb d true).connSchema d s true).hasSchema d s = true := by
        simp only [Cat.connSchema, hd, Bool.and_self, if_true, hasSchema_ensureSchema hd]
      simp [connectRegion, Impl.newSession, Session.coherent, hs]

/-- **Resolution, partial**: on a coherent connection whose context is database `d`, schema `s`, a statement on
    the unqualified name `n` or the schema-qualified name `s'.n` does exactly what the same statement on the fully
    qualified name built from the context does (envelope: DuckDB's fall-back to `d.main` does not apply). -/
theorem C03_resolve_partial (c : Cat) (ss : Session) (op : TOp) (d s s' n : Name) (hc : ss.coherent c = true)
    (hctx : ss.abs = ⟨some d, some s⟩) (henv : op.isCreate = true ∨ fallsBack c ss.path (.q1 n) = false) :
    exec c ss (.tab op (.q1 n)) = exec c ss (.tab op (.q3 d s n)) ∧
    exec c ss (.tab op (.q2 s' n)) = exec c ss (.tab op (.q3 d s' n)) := by
  obtain ⟨rfl, _⟩ := eq_of_abs_full hc hctx
  have hq : duckResolve c (d, s) op.isCreate (.q1 n) = (d, s, n) :=
    duckResolve_eq fun h => henv.resolve_left (by simp [h])
  refine ⟨?_, rfl⟩
  simp only [exec, hq]
  rfl

/-- **Resolution in two-table statements** (INSERT…SELECT, CTAS, CLONE, UPDATE…FROM, DELETE…USING, MERGE): a
    schema-qualified target or source denotes the object of that schema in the connection's current database — not a
    same-named object of the current schema — for every statement kind (no fall-back envelope: only one-part names can
    fall back to `main`). -/
theorem C03_resolve_two (c : Cat) (ss : Session) (op : COp) (d s s' n : Name) (r : TRef) (hc : ss.coherent c = true)
    (hctx : ss.abs = ⟨some d, some s⟩) :
    exec c ss (.two op (.q2 s' n) r) = exec c ss (.two op (.q3 d s' n) r) ∧
    exec c ss (.two op r (.q2 s' n)) = exec c ss (.two op r (.q3 d s' n)) := by
  obtain ⟨rfl, _⟩ := eq_of_abs_full hc hctx
  exact ⟨rfl, rfl⟩

/-- schemas 21 and 22 of database 11 both have a table 31; the source table 32 lives in 21; one connection in 11.21 -/
def wM : World :=
  { cat := { dbs := [memoryDb, 11], schemas := [(11, 21), (11, 22)],
             objs := [⟨11, 21, 31, .table, [1]⟩, ⟨11, 22, 31, .table, [1]⟩, ⟨11, 21, 32, .table, [1, 7]⟩] },
    sessions := [⟨some 11, some 21, true, true, (11, 21)⟩] }

/-- `MERGE INTO s2.t …` issued from schema S1 (which has its own table T) inserts into DB.S2.T and leaves DB.S1.T alone -/
theorem C03_merge_target_outside_current_schema :
    wM.coherent = true ∧ region wM 0 (.two .merge (.q2 22 31) (.q1 32)) = none ∧
    (Impl.step wM 0 (.two .merge (.q2 22 31) (.q1 32))).1 = .ok ∧
    ((Impl.step wM 0 (.two .merge (.q2 22 31) (.q1 32))).2.cat.find 11 22 31).map (·.rows) = some [1, 7] ∧
    ((Impl.step wM 0 (.two .merge (.q2 22 31) (.q1 32))).2.cat.find 11 21 31).map (·.rows) = some [1] := by decide +kernel

/-- **Other ways to name a table**: on a connection with a current database and schema (both `*_set` flags up), a
    statement whose table is named through `IDENTIFIER('<name>')` / `IDENTIFIER($var)` does exactly what the statement on the plain name does, at every
    qualification level (no envelope); so does `write_pandas(conn, df, table, database, schema)` — result, error code and
    effect (`exec` gives `writePandas` the engine's translated errors). -/
theorem C03_name_forms (c : Cat) (ss : Session) (op : TOp) (v : Nat) (r : TRef) (hs : ss.guard (true, true) = none) :
    ss.guard (Stmt.tabI op r).needs = none ∧ exec c ss (.tabI op r) = exec c ss (.tab op r) ∧
    exec c ss (.writePandas v r) = exec c ss (.tab (.insert v) r) := by
  exact ⟨hs, rfl, rfl⟩

/-- **Reports**: on a coherent connection with a current schema, `conn.database`/`conn.schema` (the reported
    context) and `SELECT CURRENT_DATABASE(), CURRENT_SCHEMA()` name the same database and schema, and that schema
    exists in the shared catalog. -/
theorem C03_reports (w : World) (i : Nat) (ss : Session) (hi : w.sessions[i]? = some ss)
    (hc : ss.coherent w.cat = true) (hs : ss.schemaSet = true) :
    (Impl.step w i .selectCtx).1 = .ctx ss.abs.db ss.abs.schema ∧
    ∃ d s, ss.abs = ⟨some d, some s⟩ ∧ ss.database = some d ∧ ss.schema = some s ∧ w.cat.hasSchema d s = true := by
  rcases coherent_cases hc with rfl | ⟨d0, rfl, _⟩ | ⟨d0, sc, rfl, h⟩
  · cases hs
  · cases hs
  · exact ⟨by rw [Impl.step_of_exec hi rfl rfl]; rfl, d0, sc, rfl, rfl, rfl, h⟩

/-- **90105 / 90106 change nothing** (every world, coherent or not; every statement fakesnow can build, `rawFails = false`:
    all but MERGE with a qualified source): a statement whose first table reference lacks a database (schema) on a connection
    without a current database (schema) fails with that error and the world — catalog and every connection — is unchanged. -/
theorem C03_need_ctx (w : World) (i : Nat) (st : Stmt) (ss : Session) (hi : w.sessions[i]? = some ss)
    (hraw : st.rawFails = false) :
    (st.needs.1 = true → ss.databaseSet = false → Impl.step w i st = (.err .noDb, w)) ∧
    (st.needs.2 = true → (st.needs.1 = true → ss.databaseSet = true) → ss.schemaSet = false →
      Impl.step w i st = (.err .noSchema, w)) := by
  constructor
  · intro h1 h2
    exact Impl.step_of_guard hi hraw (by simp [Session.guard, h1, h2])
  · intro h1 h2 h3
    refine Impl.step_of_guard hi hraw ?_
    cases hn : st.needs.1
    · simp [Session.guard, hn, h1, h3]
    · simp [Session.guard, h2 hn, h1, h3]

/-- which statements need a context is the statement's qualification level, for every single-table statement -/
theorem C03_needs_levels (op : TOp) (d s n : Name) :
    (Stmt.tab op (.q1 n)).needs = (true, true) ∧ (Stmt.tab op (.q2 s n)).needs = (true, false) ∧
    (Stmt.tab op (.q3 d s n)).needs = (false, false) ∧
    (∀ i, (Stmt.sch (.create i) (.q1 s)).needs = (true, false) ∧ (Stmt.sch (.drop i) (.q1 s)).needs = (true, false) ∧
      (Stmt.sch (.create i) (.q2 d s)).needs = (false, false) ∧ (Stmt.sch (.drop i) (.q2 d s)).needs = (false, false)) := by
  simp [Stmt.needs, TRef.needDb, TRef.needSchema, SRef.needDb]

/-- **Own context** (no envelope): a statement on connection `i` never changes what any other connection reports
    or where DuckDB resolves its names. -/
theorem C03_local (w : World) (i j : Nat) (st : Stmt) (hij : j ≠ i) :
    (Impl.step w i st).2.sessions[j]? = w.sessions[j]? := by
  simp only [Impl.step]
  cases w.sessions[i]? with
  | none => rfl
  | some ss =>
    simp only
    split
    · rfl
    · cases ss.guard st.needs with
      | some e => rfl
      | none => simp [Ne.symm hij]

/-- …and in the specification another connection's context changes only when its current schema is dropped. -/
theorem C03_local_spec (w : SWorld) (i j : Nat) (st : Stmt) (x xj : Ctx) (hi : w.ctxs[i]? = some x)
    (hj : w.ctxs[j]? = some xj) (hij : j ≠ i) :
    (Spec.step w i st).2.ctxs[j]? = some xj ∨
    ∃ d s, xj = ⟨some d, some s⟩ ∧ (sexec w.cat x st).2.2.2 = some (d, s) ∧
      (Spec.step w i st).2.ctxs[j]? = some ⟨some d, none⟩ := by
  simp only [Spec.step, hi, List.getElem?_map, List.getElem?_set, Ne.symm hij, if_false, hj, Option.map_some]
  rcases hd : (sexec w.cat x st).2.2.2 with _ | ⟨d, s⟩
  · exact .inl rfl
  · by_cases h : xj.db = some d ∧ xj.schema = some s
    · refine .inr ⟨d, s, ?_, rfl, ?_⟩
      · cases xj; simp at h; simp [h]
      · simp [Ctx.clear, h]
    · exact .inl (by simp [Ctx.clear, h])

/-- **Objects are shared**: a statement on a fully qualified name has the same result and the same effect on the
    catalog whichever connection issues it, whatever that connection's context (no envelope). -/
theorem C03_shared (w : World) (i j : Nat) (a b : Session) (hi : w.sessions[i]? = some a) (hj : w.sessions[j]? = some b)
    (op : TOp) (d s n : Name) :
    (Impl.step w i (.tab op (.q3 d s n))).1 = (Impl.step w j (.tab op (.q3 d s n))).1 ∧
    (Impl.step w i (.tab op (.q3 d s n))).2.cat = (Impl.step w j (.tab op (.q3 d s n))).2.cat := by
  rw [Impl.step_of_exec hi rfl rfl, Impl.step_of_exec hj rfl rfl]
  exact ⟨rfl, rfl⟩

/-- a connection that named a missing database at connect (`finding_connect_names_missing_context`): once another connection
    has created that database, the connection's own qualified USE SCHEMA gives it the full context (database_set included) and
    unqualified names resolve again -/
theorem C03_named_database_created_later :
    let w := (Impl.run (Impl.connect (Impl.connect World.init (some 11) (some 21) false false) none none false false)
      [.stmt 1 (.createDb 11 false), .stmt 1 (.sch (.create false) (.q2 11 21)), .stmt 0 (.sch .use (.q2 11 21)),
       .stmt 0 (.tab (.create .table 0 true) (.q1 31))])
    w.1 = [.ok, .ok, .ok, .ok] ∧ w.2.coherent = true ∧ (w.2.cat.find 11 21 31).isSome = true := by decide +kernel

/-- DROP SCHEMA IF EXISTS on the connection's own current schema behaves like DROP SCHEMA: no current schema
    afterwards (90106), whether the schema is written bare or qualified; on a missing schema it changes nothing -/
theorem C03_drop_if_exists :
    (Impl.run w1 [.stmt 0 (.sch (.drop true) (.q1 21)), .stmt 0 (.tab (.create .table 0 true) (.q1 32))]).1 = [.ok, .err .noSchema] ∧
    (Impl.run w1 [.stmt 0 (.sch (.drop true) (.q2 11 21)), .stmt 0 (.tab .select (.q1 31))]).1 = [.ok, .err .noSchema] ∧
    Impl.step w1 0 (.sch (.drop true) (.q1 29)) = (.ok, w1) ∧ (Impl.step w1 0 (.sch (.drop false) (.q1 29))).1 = .err .catalog := by
  decide +kernel

/-- `USE DATABASE` on a connection with a current schema: conn.schema stays `21` where the specification has none -/
theorem finding_use_database_stale_schema :
    w1.coherent = true ∧ region w1 0 (.useDb 12) = some .useDatabaseStaleSchema ∧
    (Impl.step w1 0 (.useDb 12)).2.abs ≠ (Spec.step w1.abs 0 (.useDb 12)).2 ∧
    (Impl.step w1 0 (.useDb 12)).2.coherent = false := by decide +kernel

/-- …after which an unqualified CREATE TABLE lands in `12.main` although the connection reports schema `21` -/
theorem finding_use_database_then_create_lands_in_main :
    ((Impl.run w1 [.stmt 0 (.useDb 12), .stmt 0 (.tab (.create .table 0 false) (.q1 32))]).2.cat.find 12 mainS 32).isSome = true ∧
    ((Impl.run w1 [.stmt 0 (.useDb 12)]).2.sessions.map Session.abs) = [⟨some 12, some 21⟩] := by decide +kernel

/-- `C03/drop-database-unsupported`: `DROP DATABASE 12` on `w1` is DuckDB's untranslated parser error where the specification succeeds -/
theorem finding_drop_database_unsupported :
    region w1 0 (.dropDb 12) = some .dropDatabaseUnsupported ∧
    (Impl.step w1 0 (.dropDb 12)).1 = .err .raw ∧ (Spec.step w1.abs 0 (.dropDb 12)).1 = .ok := by decide +kernel

/-- `C03/use-without-kind`: `USE 12` on `w1` moves DuckDB's search path only, the connection keeps reporting `11.21` -/
theorem finding_use_without_kind :
    region w1 0 (.useBare 12) = some .useWithoutKind ∧
    (Impl.step w1 0 (.useBare 12)).2.abs ≠ (Spec.step w1.abs 0 (.useBare 12)).2 := by decide +kernel

/-- connection 1 drops the schema that is current for connection 0: connection 0 keeps reporting it -/
theorem finding_schema_dropped_by_other_connection :
    w2.coherent = true ∧ region w2 1 (.sch (.drop false) (.q1 21)) = some .schemaDroppedByOtherConnection ∧
    ((Impl.step w2 1 (.sch (.drop false) (.q1 21))).2.sessions.map Session.abs)[0]? = some ⟨some 11, some 21⟩ ∧
    (Spec.step w2.abs 1 (.sch (.drop false) (.q1 21))).2.ctxs[0]? = some ⟨some 11, none⟩ ∧
    (Impl.step w2 1 (.sch (.drop false) (.q1 21))).2.coherent = false := by decide +kernel

/-- second table unqualified on a connection without a database: DuckDB answers (2003) instead of 90105 -/
theorem finding_non_first_table_unqualified :
    region w2 2 (.join (.q3 11 21 31) (.q1 31)) = some .nonFirstTableUnqualified ∧
    (Impl.step w2 2 (.join (.q3 11 21 31) (.q1 31))).1 = .err .catalog ∧
    (Spec.step w2.abs 2 (.join (.q3 11 21 31) (.q1 31))).1 = .err .noDb := by decide +kernel

def w3 : World :=
  { cat := { dbs := [memoryDb, 11], schemas := [(11, 21)], objs := [⟨11, mainS, 32, .table, [4]⟩] },
    sessions := [⟨some 11, some 21, true, true, (11, 21)⟩] }

/-- an unqualified name with no object in the current schema is answered from `11.main` -/
theorem finding_unqualified_falls_back_to_main :
    w3.coherent = true ∧ region w3 0 (.tab .select (.q1 32)) = some .unqualifiedFallsBackToMain ∧
    (Impl.step w3 0 (.tab .select (.q1 32))).1 = .rows [4] ∧
    (Spec.step w3.abs 0 (.tab .select (.q1 32))).1 = .err .catalog := by decide +kernel

/-- `C03/current-schema-main-when-none`: on the connection of `w2` without a context CURRENT_DATABASE() / CURRENT_SCHEMA() answer `memory.main` -/
theorem finding_current_schema_main_when_none :
    region w2 2 .selectCtx = some .currentSchemaMainWhenNone ∧
    (Impl.step w2 2 .selectCtx).1 = .ctx (some memoryDb) (some mainS) ∧
    (Spec.step w2.abs 2 .selectCtx).1 = .ctx none none := by decide +kernel

/-- `C03/use-schema-without-database-2043`: `USE SCHEMA 21` on the connection of `w2` without a database: 2043 where the property asks 90105 -/
theorem finding_use_schema_without_database :
    region w2 2 (.sch .use (.q1 21)) = some .useSchemaWithoutDatabase ∧
    (Impl.step w2 2 (.sch .use (.q1 21))).1 = .err .binder ∧
    (Spec.step w2.abs 2 (.sch .use (.q1 21))).1 = .err .noDb := by decide +kernel

/-- MERGE with a qualified source cannot be built by fakesnow at all (sqlglot ParseError; C12's finding) -/
theorem finding_merge_qualified_source :
    region w1 0 (.two .merge (.q1 31) (.q2 21 31)) = some .mergeQualifiedSource ∧
    (Impl.step w1 0 (.two .merge (.q1 31) (.q2 21 31))).1 = .err .raw := by decide +kernel

/-- `IDENTIFIER('db.schema.table')` is checked as if it were unqualified: on a connection without a current database (and
    schema) the fully qualified name fails with 90105 -/
theorem finding_identifier_function_unqualified :
    region w2 2 (.tabI .select (.q3 11 21 31)) = some .identifierFunctionUnqualified ∧
    (Impl.step w2 2 (.tabI .select (.q3 11 21 31))).1 = .err .noDb ∧
    (Spec.step w2.abs 2 (.tabI .select (.q3 11 21 31))).1 = .rows [7] := by decide +kernel

/-- write_pandas on a connection without a current database / schema is not stopped by 90105 / 90106: DuckDB resolves the
    bare name in its own search path (here: 2003 because `memory.main` has no such table) -/
theorem finding_write_pandas_bypasses_guards :
    region w2 2 (.writePandas 5 (.q1 31)) = some .writePandasBypassesGuards ∧
    (Impl.step w2 2 (.writePandas 5 (.q1 31))).1 = .err .catalog ∧
    (Spec.step w2.abs 2 (.writePandas 5 (.q1 31))).1 = .err .noDb ∧
    region w1 0 (.writePandas 5 (.q2 21 31)) = none ∧
    ((Impl.step w1 0 (.writePandas 5 (.q2 21 31))).2.cat.find 11 21 31).map (·.rows) = some [7, 5] := by decide +kernel

/-- a connect naming a database that is missing and not created: the connection reports it (`conn.database = 11`)
    although it has no current database (every unqualified name fails with 90105) -/
theorem finding_connect_names_missing_context :
    connectRegion World.init (some 11) none false false = some .connectNamesMissingContext ∧
    (Impl.connect World.init (some 11) none false false).sessions.map (·.database) = [some 11] ∧
    (Impl.connect World.init (some 11) none false false).abs.ctxs = [⟨none, none⟩] ∧
    (Impl.step (Impl.connect World.init (some 11) none false false) 0 (.tab .select (.q1 31))).1 = .err .noDb := by decide +kernel

/-- before the repair `USE SCHEMA d.s` recorded only the schema name -/
def oldUseSchema (ss : Session) (d s : Name) : Session := { ss with schema := some s, schemaSet := true, path := (d, s) }

/-- C03/use-schema-qualified: the old bookkeeping reports database 11 while DuckDB resolves in 12.21 -/
theorem C03_old_use_schema_qualified_incoherent :
    (oldUseSchema ⟨some 11, some 21, true, true, (11, 21)⟩ 12 21).coherent w1.cat = false ∧
    (exec w1.cat ⟨some 11, some 21, true, true, (11, 21)⟩ (.sch .use (.q2 12 21))).2.2.coherent w1.cat = true := by decide +kernel

/-- before the repair DROP SCHEMA compared the bare name and only cleared `conn.schema` -/
def oldDropReset (ss : Session) (s : Name) : Session := if ss.schema = some s then { ss with schema := none } else ss

/-- C03/drop-schema-other-db and C03/dropped-current-schema-2003: dropping `12.21` cleared the schema of a
    connection in `11.21`; dropping the own schema left `schema_set` (and the search path) on the dropped schema -/
theorem C03_old_drop_schema_incoherent :
    (oldDropReset ⟨some 11, some 21, true, true, (11, 21)⟩ 21).coherent (w1.cat.applyS (.drop false) 12 21).2 = false ∧
    (oldDropReset ⟨some 11, some 21, true, true, (11, 21)⟩ 21).coherent (w1.cat.applyS (.drop false) 11 21).2 = false ∧
    (exec w1.cat ⟨some 11, some 21, true, true, (11, 21)⟩ (.sch (.drop false) (.q2 12 21))).2.2.abs = ⟨some 11, some 21⟩ ∧
    (Impl.step w1 0 (.sch (.drop false) (.q1 21))).2.coherent = true ∧
    (Impl.run w1 [.stmt 0 (.sch (.drop false) (.q1 21)), .stmt 0 (.tab (.create .table 0 false) (.q1 32))]).1 = [.ok, .err .noSchema] := by
  decide +kernel

/-- two connections, both kinds of USE SCHEMA, creation/insert/select at all three levels, a connection dropping
    its own current schema, 90106 afterwards — all inside the envelope -/
def demo : List Op :=
  [.connect (some 11) (some 21) true true, .connect (some 12) none true true, .connect none none true true,
   .stmt 0 (.tab (.create .table 0 false) (.q1 31)), .stmt 0 (.tab (.insert 5) (.q1 31)),
   .stmt 1 (.sch (.create true) (.q1 22)), .stmt 1 (.sch .use (.q2 11 21)), .stmt 1 (.tab (.insert 6) (.q1 31)),
   .stmt 2 (.tab .select (.q3 11 21 31)), .stmt 2 (.tab .select (.q2 21 31)), .stmt 1 (.sch .use (.q2 12 22)),
   .stmt 1 (.tab (.create .view 9 false) (.q2 22 33)), .stmt 1 (.sch (.drop true) (.q1 22)), .stmt 1 (.tab .select (.q1 33)),
   .stmt 0 (.join (.q1 31) (.q2 21 31)), .stmt 0 .selectCtx]

example : clean World.init demo = true := by decide +kernel
example : (Impl.run World.init demo).1 =
    [.ok, .ok, .ok, .ok, .ok, .rows [5, 6], .err .noDb, .ok, .ok, .ok, .err .noSchema, .rows [4], .ctx (some 11) (some 21)] := by
  decide +kernel
example : w1.coherent = true ∧ region w1 0 (.sch .use (.q2 12 21)) = none := by decide +kernel

end Fs.C03
