import Fs.Proofs.Types
/-!
# C01 — stored values read back unchanged, in the connector's Python types   (partial)

What is proved here is fakesnow's own part: the type rewrites choose DuckDB storage types wide enough for every value of the
Snowflake type (`C01_width_partial`), the Python type handed out is the connector's (`C01_pytype_partial`), CLONE/CTAS/INSERT
… SELECT move exactly the selected rows and touch nothing else (`C01_clone`, `C01_ctas`, `C01_insert_select`), `_insert_df`
only re-encodes dict/list cells (`C01_insert_df_cells`). That DuckDB stores and returns what it is given, and pyarrow's
conversions, are **not** proved: they are exercised by the correspondence check (`harness/props/c01.py`) on every run.
-/
namespace Fs.C01
open Fs.Types

/-- the full statement: every value exactly representable in a Snowflake type fits the DuckDB type fakesnow chooses -/
def C01_Width_Full : Prop := ∀ k v, dom k v → duckDom (toDuck k) v

/-- finding `C01/int-family-int64`: 2^63 is an INT value in Snowflake and does not fit the chosen BIGINT -/
theorem finding_C01_int64 :
    dom .int (.num 9223372036854775808 0) ∧ toDuck .int = .bigint ∧ ¬ duckDom (toDuck .int) (.num 9223372036854775808 0) :=
  -- `dom` is a `Prop` by cases: its instance of `Decidable` is found only on the row it unfolds to
  ⟨by unfold dom; decide, rfl, fun h => absurd h.2.2 (by decide)⟩

/-- false on the pinned tree: the integer family (synonyms of NUMBER(38,0) in Snowflake) is stored as BIGINT -/
theorem C01_width_full_false : ¬ C01_Width_Full := fun h =>
  finding_C01_int64.2.2 (h _ _ finding_C01_int64.1)

/-- envelope: values of an integer-family column lie in the int64 range -/
def WidthEnv (k : Kind) (v : Val) : Prop := isIntFamily k = true → int64 v

/-- **Width adequacy**: for every column kind the Snowflake parser produces and every value exactly representable in
    it — all 38-digit decimals at every scale, every binary64 pattern (denormals, ±max, NaNs), any text, years
    1–9999 at microsecond resolution, any bytes, any JSON text — the value lies in the domain of the DuckDB type
    fakesnow's rewrites choose; for the integer family under the int64 envelope. -/
theorem C01_width_partial (k : Kind) (v : Val) (henv : WidthEnv k v) (h : dom k v) : duckDom (toDuck k) v := by
  -- inversion on `dom`: one case per row of its table, numbered in its order (each alternative of a `|` is a row);
  -- in each the kind and the shape of the value are known, `toDuck` computes, and the hypothesis is the row's bound
  revert h
  fun_cases dom k v
  -- BOOLEAN (1), the text kinds (9–11), the semi-structured kinds (20–23): no bound on either side
  case case1 | case9 | case10 | case11 | case20 | case21 | case22 | case23 => exact id
  -- NUMBER(p,s) (2), FLOAT and DOUBLE (7, 8), the binaries (18, 19): the storage type has the same bound
  case case2 | case7 | case8 | case18 | case19 => exact id
  -- the integer family (3–6) is stored as BIGINT
  case case3 | case4 | case5 | case6 => exact fun h => ⟨h.1, henv rfl⟩
  -- DATE (12): the days of the years 1–9999 are within int32
  case case12 => exact fun ⟨_, _⟩ => ⟨by omega, by omega⟩
  -- TIME (13): DuckDB also takes 24:00:00
  case case13 => exact Nat.le_of_lt
  -- the timestamps (14–17): the µs of the years 1–9999 are within int64
  case case14 | case15 | case16 | case17 =>
    unfold tsMin tsMax
    exact fun ⟨_, _⟩ => ⟨by omega, by omega⟩
  -- no row (24)
  case case24 => exact False.elim

example : WidthEnv (.decimal 38 37) (.num (10 ^ 38 - 1) 37) ∧ dom (.decimal 38 37) (.num (10 ^ 38 - 1) 37) :=
  ⟨nofun, by unfold dom; decide⟩
example : WidthEnv .int (.num (-9223372036854775808) 0) ∧ dom .int (.num (-9223372036854775808) 0) :=
  ⟨fun _ => by unfold int64; decide, by unfold dom; decide⟩

/-- every type spelling of the property's list is parsed and gets a real DuckDB type (none is left as an unknown name) -/
theorem C01_types_supported :
    ∀ n ∈ ["BOOLEAN", "NUMBER", "DECIMAL", "NUMERIC", "INT", "INTEGER", "BIGINT", "SMALLINT", "TINYINT", "BYTEINT", "FLOAT",
           "FLOAT4", "FLOAT8", "DOUBLE", "DOUBLE PRECISION", "REAL", "VARCHAR", "CHAR", "CHARACTER", "STRING", "TEXT", "DATE",
           "TIME", "TIMESTAMP", "TIMESTAMP_NTZ", "DATETIME", "TIMESTAMP_TZ", "BINARY", "VARBINARY", "VARIANT", "OBJECT", "ARRAY"],
      ∃ k, parseSf n = some k ∧ toDuck k ≠ .unknown := by
  intro n hn
  -- the list is that of `parseSf`'s patterns: each yields a kind, and in the fall-through case `n` is none of them
  fun_cases parseSf n
  case case33 =>
    simp only [List.mem_cons, List.not_mem_nil, or_false] at hn
    grind
  all_goals exact ⟨_, rfl, toDuck_ne_unknown _⟩

/-- **Each rewrite is necessary**: without `float_to_double` FLOAT is a 32-bit REAL that cannot hold 0.1; without
    `integer_precision` INT is 32-bit and cannot hold 2^31; without `semi_structured_types` VARIANT is not a DuckDB type
    at all. -/
theorem C01_rewrites_necessary :
    (dom .float (.dbl 0x3FB999999999999A) ∧
      ¬ duckDom (duckOf (integerPrecision (timestampNtz (semiStructured .float)))) (.dbl 0x3FB999999999999A)) ∧
    (dom .int (.num 2147483648 0) ∧
      ¬ duckDom (duckOf (floatToDouble (timestampNtz (semiStructured .int)))) (.num 2147483648 0)) ∧
    duckOf (integerPrecision (floatToDouble (timestampNtz .variant))) = .unknown :=
  ⟨⟨by unfold dom; decide, fun h => absurd h.2 (by decide)⟩,
   ⟨by unfold dom; decide, fun h => absurd h.2.2 (by decide)⟩, rfl⟩

/-- finding `C01/decimal-param-exponent`: the smallest magnitude at scale 9, `Decimal('1E-9')`, is rendered in scientific
    notation by the pyformat binding and rejected; a 38-digit value at scale 37 is rendered plainly -/
theorem finding_C01_decimal_param_exponent :
    pyformatDecimalAccepted 1 (-9) = false ∧ pyformatDecimalAccepted 38 (-37) = true ∧ pyformatDecimalAccepted 3 (-2) = true := by decide

/-- the full statement: for every column kind the fetched Python type is the connector's -/
def C01_Pytype_Full : Prop := ∀ k, pyOf (toDuck k) = connPy k

/-- finding `C01/number-scale0-decimal`: a NUMBER(p,0) column is handed out as Decimal, the connector uses int -/
theorem finding_C01_number_scale0 (p : Nat) : pyOf (toDuck (.decimal p 0)) = .decimal ∧ connPy (.decimal p 0) = .int :=
  ⟨rfl, rfl⟩

/-- so the full Python-type statement is false (NUMBER(38,0) is the witness) -/
theorem C01_pytype_full_false : ¬ C01_Pytype_Full := fun h =>
  Py.noConfusion ((finding_C01_number_scale0 38).1.symm.trans ((h _).trans (finding_C01_number_scale0 38).2))

/-- **Python type table**: for every column kind except NUMBER(p,0), the Python type of a fetched value is the one the
    Snowflake connector uses (int, Decimal, float, str, bool, date, time, naive/aware datetime, bytes, JSON text). -/
theorem C01_pytype_partial (k : Kind) (h : ∀ p, k ≠ .decimal p 0) : pyOf (toDuck k) = connPy k := by
  cases k
  case decimal p s =>
    cases s
    · exact absurd rfl (h p)
    · rfl
  all_goals rfl

example : (∀ p, Kind.decimal 10 2 ≠ .decimal p 0) ∧ (∀ p, Kind.timestampTz ≠ .decimal p 0) := by
  constructor <;> intro p h <;> cases h

/-- **Description of numeric columns**: for every declared NUMBER(p,s) — any precision, any scale — the description of the
    storage type the rewrites choose (`sfDescr`, a table) is FIXED with exactly the declared precision and scale (it is the
    scale that makes the connector build `Decimal` vs `int`); the integer family reports FIXED(38,0), the float family REAL.
    That the numbers are read back from DuckDB's `DECIMAL(p,s)` text, whatever their number of digits, is `C06_decimal_parse`. -/
theorem C01_description_numeric (k : Kind) (d : SfName × Option Nat × Option Nat) (h : declDescr k = some d) :
    sfDescr (toDuck k) = d := by
  unfold declDescr at h
  split at h <;> cases h <;> rfl

example : declDescr (.decimal 38 37) = some (.fixed, some 38, some 37) ∧ sfDescr (toDuck (.decimal 12 12)) = (.fixed, some 12, some 12) :=
  ⟨rfl, rfl⟩

/-- **CREATE TABLE AS**: the new table holds exactly the selected rows, projected, in multiplicity; nothing else changes. -/
theorem C01_ctas (db db' : Db) (new : String) (orReplace : Bool) (q : Query) (h : ctas db new orReplace q = some db') :
    (∃ t, get db q.src = some t ∧
      get db' new = some { cols := q.projCols t.cols, rows := (t.rows.filter q.pred).map q.proj }) ∧
    ∀ n, n ≠ new → get db' n = get db n := by
  unfold ctas evalQuery at h
  split at h
  · cases h
  next r hr =>
    obtain ⟨t, ht, rfl⟩ := Option.map_eq_some_iff.1 hr
    split at h
    · cases h
    · cases h
      exact ⟨⟨t, ht, get_put_self⟩, fun _ => get_put_ne⟩

/-- **CLONE**: when `CREATE TABLE new CLONE src` succeeds, `new` has exactly the columns and rows of `src` — every row
    once, duplicates and NULL cells included — and every other table, `src` itself included, is unchanged. -/
theorem C01_clone (db db' : Db) (new src : String) (h : clone db new src = some db') :
    get db' new = get db src ∧ (get db src).isSome ∧ ∀ n, n ≠ new → get db' n = get db n := by
  obtain ⟨⟨t, ht, hn⟩, hf⟩ := C01_ctas db db' new false (star src) h
  dsimp only [star] at ht hn
  rw [List.filter_eq_self.2 fun _ _ => rfl, List.map_id] at hn
  exact ⟨hn.trans ht.symm, ht ▸ rfl, hf⟩

/-- **INSERT … SELECT**: the target keeps all its rows and gains exactly the selected source rows (so each row's
    multiplicity is old + selected), the reported count is the number of selected rows, and every other table is
    unchanged. -/
theorem C01_insert_select (db db' : Db) (tgt : String) (q : Query) (cnt : Nat) (h : insertSelect db tgt q = some (db', cnt)) :
    (∃ t s, get db tgt = some t ∧ get db q.src = some s ∧
      get db' tgt = some { t with rows := t.rows ++ (s.rows.filter q.pred).map q.proj } ∧
      cnt = ((s.rows.filter q.pred).map q.proj).length ∧
      ∀ r : Row, ((t.rows ++ (s.rows.filter q.pred).map q.proj).count r) =
        t.rows.count r + ((s.rows.filter q.pred).map q.proj).count r) ∧
    ∀ n, n ≠ tgt → get db' n = get db n := by
  unfold insertSelect evalQuery at h
  split at h
  next t r ht hr =>
    obtain ⟨s, hs, rfl⟩ := Option.map_eq_some_iff.1 hr
    cases h
    exact ⟨⟨t, s, ht, hs, get_put_self, rfl, fun _ => List.count_append⟩, fun _ => get_put_ne⟩
  · cases h

/-- a clone of a table with a duplicate row and a NULL, next to a bystander -/
example :
    let db : Db := [("SRC", { cols := ["A", "B"], rows := [[some 1, none], [some 1, none], [none, some 2]] }),
                    ("BY", { cols := ["X"], rows := [[some 7]] })]
    (clone db "NEW" "SRC").map (fun d => (get d "NEW", get d "BY")) =
      some (some { cols := ["A", "B"], rows := [[some 1, none], [some 1, none], [none, some 2]] },
            some { cols := ["X"], rows := [[some 7]] }) := by decide +kernel

/-- **`_insert_df` cell preparation**: in object columns dict and list cells are replaced by their `json.dumps` text —
    and, `dumps` being injective, distinct documents stay distinct; every other cell (strings in particular, NULLs,
    numbers) and every cell of a non-object column is passed through untouched. -/
theorem C01_insert_df_cells (dumps : List Char → List Char) (hinj : ∀ a b, dumps a = dumps b → a = b) :
    (∀ j, prepCell dumps true (.dict j) = .str (dumps j) ∧ prepCell dumps true (.list j) = .str (dumps j)) ∧
    (∀ j j', prepCell dumps true (.dict j) = prepCell dumps true (.dict j') → j = j') ∧
    (∀ oc c, (∀ j, c ≠ .dict j) → (∀ j, c ≠ .list j) → prepCell dumps oc c = c) ∧
    (∀ c, prepCell dumps false c = c) := by
  refine ⟨fun j => ⟨rfl, rfl⟩, fun j j' h => hinj _ _ (PCell.str.inj h), ?_, ?_⟩
  · intro oc c h1 h2
    cases c with
    | dict j => exact absurd rfl (h1 j)
    | list j => exact absurd rfl (h2 j)
    | _ => rfl
  · intro c; cases c <;> rfl

end Fs.C01
