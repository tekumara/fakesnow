import Fs.Proofs.Meta
/-!
# C09 — metadata views always describe exactly the current user objects

The lemmas are in `Fs/Proofs/Meta.lean`, and so are the invariant `Meta.Inv` of `C09_step_partial` and the `TabOK` it is made
of (keys are unique, and the side-table rows of every live object say what was declared).
`Fs.Meta.World` carries the live catalog with the metadata *as declared*
(what the property demands every surface to show: `describeS`, `infoColumnsS`, `infoTablesS`) together with the side tables
`_fs_tables_ext` / `_fs_columns_ext` as the code maintains them — upsert only — from which the code computes its answers
(`describeI`, `infoColumnsI`, `infoTablesI`: the live catalog with lengths and comments *erased*, joined with the side
tables).  `region` recognises the statements on which that bookkeeping loses or resurrects metadata.  The
correspondence check (`harness/props/c09.py`) ties `step`, the surfaces and `region` to the real code after every statement.
-/
namespace Fs.C09
open Fs.Meta

/-- all three side-table surfaces show what was declared, for every object, schema and database -/
def SurfacesAgree (w : World) : Prop :=
  (∀ k, describeI w k = describeS w k) ∧ (∀ k, infoColumnsI w k = infoColumnsS w k) ∧
  (∀ d s, infoTablesI w d s = infoTablesS w d s)

/-- **Full statement of C09** on the model: after every DDL history the surfaces agree with the declarations. -/
def C09_Full : Prop := ∀ ops : List Op, SurfacesAgree (run World.init ops)

def k1 : Key := (11, 21, 31)
def k2 : Key := (11, 21, 32)

/-- DROP + re-CREATE: the comment of the dropped table is shown for the new one -/
def staleHistory : List Op :=
  [.createTable k1 [⟨41, .text 10⟩] (some 3) false none, .dropTable k1, .createTable k1 [⟨41, .int⟩] none false none]

/-- The full statement is false for the code as it is (witness: stale comment after DROP + re-CREATE). -/
theorem C09_full_false : ¬ C09_Full := by
  intro h
  have := (h staleHistory).2.2 11 21
  revert this; decide +kernel

/-- **C09, partial** (envelope `clean`: no statement of the history lies in a finding region): after every history
    of CREATE [OR REPLACE] TABLE, CTAS, CLONE, CREATE VIEW, ALTER TABLE add/drop/rename column, rename table, COMMENT,
    DROP and re-CREATE, DESCRIBE, information_schema.columns and information_schema.tables show exactly the declared
    types, VARCHAR lengths and comments of exactly the live objects, in every schema and database. -/
theorem C09_agree_partial (ops : List Op) (henv : clean World.init ops = true) : SurfacesAgree (run World.init ops) :=
  surfaces_of_inv _ (run_inv World.init ops inv_init henv)

/-- the one-step form: the invariant (unique keys + side tables describe every live object exactly as declared) is
    kept by every statement outside the finding regions — whether it succeeds or fails -/
theorem C09_step_partial (w : World) (op : Op) (hinv : Meta.Inv w) (henv : region w op = none) : Meta.Inv (step w op).2 :=
  step_inv w op hinv henv

/-- …and the invariant is what makes the surfaces agree -/
theorem C09_surfaces (w : World) (hinv : Meta.Inv w) : SurfacesAgree w := surfaces_of_inv w hinv

/-- the invariant is the decidable check the driver evaluates after every step (`World.agree`), plus key uniqueness -/
theorem C09_inv_iff_agree (w : World) : Meta.Inv w ↔ (w.uniq ∧ w.agree = true) := by
  simp only [Meta.Inv, agree_iff]

/-- **Nothing dropped is listed**: the listing surfaces (SHOW TABLES / OBJECTS, information_schema.views, the names of
    information_schema.tables) read the live catalog only; after a successful DROP TABLE the key is no longer found and
    every object of the catalog was there before, under another key (no envelope). -/
theorem C09_drop_removes (w : World) (k : Key) (h : (step w (.dropTable k)).1 = true) :
    (step w (.dropTable k)).2.find k = none ∧
    ∀ t ∈ (step w (.dropTable k)).2.tabs, t ∈ w.tabs ∧ t.key ≠ k := by
  revert h
  simp only [step]
  split
  · split
    · exact fun h => nomatch h
    · exact fun _ => ⟨find_none_iff.2 fun t ht => (mem_remove.1 ht).2, fun t ht => mem_remove.1 ht⟩
  · exact fun h => nomatch h

/-- **Statements without metadata effect** — what fakesnow answers with its success no-op (SET variable, SET TAG, CREATE
    TAG, CLUSTER BY, column COMMENT, nop_regexes) and USE SCHEMA / USE DATABASE — leave the catalog and both side tables
    exactly as they are, wherever they are interleaved. -/
theorem C09_nop_unchanged (w : World) : step w .nop = (true, w) := rfl

/-- **Primary keys** (SHOW PRIMARY KEYS) are read from the live catalog alone — no side table is involved, so nothing a
    COMMENT, a no-op'd statement or a stale row does can change them. -/
theorem C09_keys_from_catalog (tabs : List Tab) (t1 t2 : List (Key × Nat)) (c1 c2 : List (Key × Name × Nat)) (d s : Name) :
    showKeys ⟨tabs, t1, c1⟩ d s = showKeys ⟨tabs, t2, c2⟩ d s := rfl

/-- …and they follow CREATE (a COMMENT and a no-op behind it change nothing), OR REPLACE and DROP; a key naming no column is refused -/
theorem C09_keys_follow_ddl :
    showKeys (run World.init [.createTable k1 [⟨41, .int⟩, ⟨42, .text 5⟩] none false (some 41), .setComment k1 3, .nop]) 11 21 = [(31, 41)] ∧
    showKeys (run World.init [.createTable k1 [⟨41, .int⟩] none false (some 41), .createTable k1 [⟨42, .num 5 0⟩] none true (some 42)]) 11 21 = [(31, 42)] ∧
    showKeys (run World.init [.createTable k1 [⟨41, .int⟩] none false (some 41), .dropTable k1]) 11 21 = [] ∧
    (step World.init (.createTable k1 [⟨41, .int⟩] none false (some 49))).1 = false := by decide +kernel

/-- **A failed statement changes nothing** (no envelope). -/
theorem C09_failed_unchanged (w : World) (op : Op) (h : (step w op).1 = false) : (step w op).2 = w := by
  revert h
  -- every leaf of `step` is `(false, w)` or `(true, _)`
  fun_cases step w op <;> intro h <;> cases h <;> rfl

/-- **Octet length**: `character_octet_length` of VARCHAR(n) is `min(4n, 16777216)`: 4 bytes per character up to the
    16 MB cap, never more than the cap, and equal to the cap for the default length. -/
theorem C09_octet_length (n : Nat) :
    octetLen n = (if n * 4 ≤ 16777216 then n * 4 else 16777216) ∧ octetLen n ≤ 16777216 ∧ octetLen defaultLen = 16777216 :=
  ⟨Nat.min_def, Nat.min_le_right _ _, rfl⟩

/-- `C09/stale-comment`: after the re-CREATE of `staleHistory` (no comment) information_schema.tables shows the dropped table's comment -/
theorem finding_stale_comment :
    region (run World.init (staleHistory.take 2)) (.createTable k1 [⟨41, .int⟩] none false none) = some .staleComment ∧
    infoTablesI (run World.init staleHistory) 11 21 = [(31, false, some 3)] ∧
    infoTablesS (run World.init staleHistory) 11 21 = [(31, false, none)] := by decide +kernel

def base : World := run World.init [.createTable k1 [⟨41, .text 10⟩, ⟨42, .int⟩] (some 4) false none]

/-- `C09/length-lost-on-rename-column`: renaming the VARCHAR(10) column of `base` makes DESCRIBE show the default length -/
theorem finding_length_lost_on_rename_column :
    (base.agree = true) ∧ region base (.renameCol k1 41 43) = some .lengthLostOnRenameColumn ∧
    describeI (step base (.renameCol k1 41 43)).2 k1 = some [⟨43, .text defaultLen⟩, ⟨42, .int⟩] ∧
    describeS (step base (.renameCol k1 41 43)).2 k1 = some [⟨43, .text 10⟩, ⟨42, .int⟩] := by decide +kernel

/-- `C09/metadata-lost-on-rename-table`: after renaming `base`'s table, its comment and its VARCHAR length are gone from information_schema -/
theorem finding_metadata_lost_on_rename_table :
    region base (.renameTable k1 32) = some .lengthLostOnRenameTable ∧
    infoTablesI (step base (.renameTable k1 32)).2 11 21 = [(32, false, none)] ∧
    infoTablesS (step base (.renameTable k1 32)).2 11 21 = [(32, false, some 4)] ∧
    infoColumnsI (step base (.renameTable k1 32)).2 k2 = some [(41, none), (42, none)] ∧
    infoColumnsS (step base (.renameTable k1 32)).2 k2 = some [(41, some 10), (42, none)] := by decide +kernel

/-- `C09/length-lost-on-ctas`: CTAS of the VARCHAR(10) column of `base`: DESCRIBE of the new table differs from the declaration -/
theorem finding_length_lost_on_ctas :
    region base (.ctas k2 k1 [41] false) = some .lengthLostOnCtas ∧
    describeI (step base (.ctas k2 k1 [41] false)).2 k2 ≠ describeS (step base (.ctas k2 k1 [41] false)).2 k2 := by decide +kernel

/-- `C09/metadata-lost-on-clone`: CLONE of `base`: DESCRIBE and information_schema.tables of the clone differ from the declaration -/
theorem finding_metadata_lost_on_clone :
    region base (.clone k2 k1 false) = some .lengthLostOnClone ∧
    describeI (step base (.clone k2 k1 false)).2 k2 ≠ describeS (step base (.clone k2 k1 false)).2 k2 ∧
    infoTablesI (step base (.clone k2 k1 false)).2 11 21 ≠ infoTablesS (step base (.clone k2 k1 false)).2 11 21 := by decide +kernel

/-- `C09/length-lost-on-view`: a view over the VARCHAR(10) column of `base`: DESCRIBE of the view differs from the declaration -/
theorem finding_length_lost_on_view :
    region base (.createView k2 k1 [41] false) = some .lengthLostOnView ∧
    describeI (step base (.createView k2 k1 [41] false)).2 k2 ≠ describeS (step base (.createView k2 k1 [41] false)).2 k2 := by decide +kernel

/-- `C09/comment-on-missing-table-recorded`: COMMENT on a table that does not exist is recorded and shown for the table created later -/
theorem finding_comment_on_missing_table :
    region World.init (.setComment k1 6) = some .commentOnMissingTable ∧
    infoTablesI (run World.init [.setComment k1 6, .createTable k1 [⟨41, .int⟩] none false none]) 11 21 = [(31, false, some 6)] ∧
    infoTablesS (run World.init [.setComment k1 6, .createTable k1 [⟨41, .int⟩] none false none]) 11 21 = [(31, false, none)] := by decide +kernel

/-- a clean history with re-creation, OR REPLACE with a new comment, column churn, CTAS/CLONE/VIEW of non-text columns,
    rename of a non-text column and of a table without text columns or comment, and drops -/
def demo : List Op :=
  [.createTable k1 [⟨41, .text 10⟩, ⟨42, .int⟩, ⟨43, .num 10 2⟩] (some 1) false none,
   .addCol k1 ⟨44, .text 7⟩, .dropCol k1 41, .addCol k1 ⟨41, .text 3⟩, .renameCol k1 42 45, .setComment k1 2,
   .createTable k2 [⟨41, .date⟩, ⟨42, .bool⟩] none false none, .renameTable k2 33, .ctas k2 k1 [45, 43] false,
   .createView (11, 21, 34) k1 [43] false, .clone (11, 22, 31) (11, 21, 33) false,
   .createTable k1 [⟨41, .text 5⟩] (some 9) true none, .dropTable k2, .createTable k2 [⟨46, .text defaultLen⟩] none false none,
   .dropView (11, 21, 34)]

example : clean World.init demo = true := by decide +kernel
example : describeI (run World.init demo) k1 = some [⟨41, .text 5⟩] ∧ infoTablesI (run World.init demo) 11 21 =
    [(33, false, none), (31, false, some 9), (32, false, none)] := by decide +kernel

end Fs.C09
