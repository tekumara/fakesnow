import Fs.Proofs.Patch
import Fs.Proofs.Cli
/-!
# C20 — patch() and the CLI switch the fake on and off cleanly

* The `patch()` theorems are about `Fs.Patch.patchRun fixed`, the model of `fakesnow.patch` (`__init__.py`) **after** the
  repairs `C20/setup-failure-leaks` and `C20/lazy-import-keeps-mock`; the `*_shipped*` theorems are the regression
  witnesses showing that the code as shipped violated the same statements.
* The command-line theorems are about `Fs.Cli.main`, the model of `fakesnow.cli.main` (`split` + the argparse parser + the
  hand-off of `sys.argv`) **after** the repair `C20/argv-equals-forms`; `C20_argv_shipped_loses_args` is the regression
  witness.

`harness/props/c20.py` ties both models to the real code on every run.
-/
namespace Fs.C20
open Fs.Patch Fs.Cli

/-- **Restoration, for every target list and every way of leaving the block** (normal exit, an `Exception` in the body, a
    `BaseException` such as SystemExit / KeyboardInterrupt, the enclosing generator being closed — `x` ranges over all of `Exit` —,
    patch() failing while it sets up — missing module, missing attribute, non-snowflake function — and refusal):
    afterwards (a) every attribute that existed before, hence every standard and extra target, is the very object it
    was before; (b) no mock made by fakesnow is left anywhere that did not already exist before — in particular not
    in a module that patch() itself imported; (c) unless patch() refused to start, the connection of its FakeSnow
    instance is closed and no other instance is touched. -/
theorem C20_restore (w : World) (extras : List Slot) (x : Exit) :
    (∀ s o, get w.env s = some o → get (patchRun fixed w extras x).after.env s = some o) ∧
    (∀ s i f, get (patchRun fixed w extras x).after.env s = some (.mock i f) → ∃ s', get w.env s' = some (.mock i f)) ∧
    ((patchRun fixed w extras x).outcome ≠ .refused →
      (patchRun fixed w extras x).after.closed = w.nextInst :: w.closed) := by
  cases hg : guardOk w with
  | false => rw [patchRun_refused hg]; exact ⟨(Ext.refl _).keeps, (Ext.refl _).mocks, fun h => absurd rfl h⟩
  | true =>
    obtain ⟨-, w1, st, hi, he, ha, -⟩ := patchRun_fixed_summary hg extras x
    rw [ha]
    have := hi.ext.congr he.restores
    exact ⟨this.keeps, this.mocks, fun _ => congrArg _ (he.closed.trans hi.closed)⟩

/-- **Inside the block every target is the fake**: when set-up succeeds, every standard and extra target holds a
    MagicMock, and each target that was a real snowflake function holds *this* instance's fake of that function. -/
theorem C20_inside (w : World) (extras : List Slot) (x : Exit) (wi : World)
    (h : (patchRun fixed w extras x).inside = some wi) :
    ∀ t ∈ targetsOf extras,
      (∃ o, get wi.env t = some o ∧ o.isMock = true) ∧
      (∀ f, get w.env t = some (.real f) → get wi.env t = some (.mock w.nextInst f)) := by
  intro t ht
  obtain ⟨hm, hr⟩ := patchRun_fixed_inside h ht
  refine ⟨(Option.any_eq_true ..).mp hm, fun f hf => ?_⟩
  obtain ⟨g, hg, hg'⟩ := hr _ hf rfl
  cases hg; exact hg'

/-- **Targets are recognised by the object they hold, never by their name**: if some standard or extra target holds an
    object that is not one of the two snowflake functions (whatever the attribute is called — also `connect` or
    `write_pandas`), the body never runs and that attribute is afterwards the very object it was (it is never replaced by a
    fake).  Conversely `C20_inside` gives every target holding a real snowflake function — under any attribute name, e.g.
    `from snowflake.connector import connect as sf_connect` — this instance's fake of that function. -/
theorem C20_non_snowflake_never_faked (w : World) (extras : List Slot) (x : Exit) (t : Slot) (k : Nat)
    (ht : t ∈ targetsOf extras) (h : get w.env t = some (.other k)) :
    (patchRun fixed w extras x).inside = none ∧ get (patchRun fixed w extras x).after.env t = some (.other k) := by
  refine ⟨?_, (C20_restore w extras x).1 t _ h⟩
  cases hins : (patchRun fixed w extras x).inside with
  | none => rfl
  | some wi =>
    obtain ⟨_, hg, _⟩ := (patchRun_fixed_inside hins ht).2 _ h rfl
    cases hg

/-- **patch() can be entered again**: whatever the target list and however the block was left (including a failed
    set-up), a later patch() is not refused. -/
theorem C20_reenter (w : World) (hw : WF w) (extras extras' : List Slot) (x x' : Exit)
    (h : (patchRun fixed w extras x).outcome ≠ .refused) :
    (patchRun fixed (patchRun fixed w extras x).after extras' x').outcome ≠ .refused := by
  -- the guard looks at `snowflake.connector.connect` only, which holds what it held before the first run
  have hg : guardOk (patchRun fixed w extras x).after = guardOk w := by
    obtain ⟨o, ho⟩ := Option.isSome_iff_exists.mp (hw .connect)
    unfold guardOk
    rw [(C20_restore w extras x).1 _ o ho, ho]
  cases h1 : guardOk w with
  | false => exact absurd (congrArg Result.outcome (patchRun_refused h1 ..)) h
  | true => exact (patchRun_fixed_summary (hg.trans h1) extras' x').1

/-- **Nested patching is refused without damage**: inside a block every attempt to enter patch() again is refused
    and leaves the environment, the instances and the connections exactly as they are. -/
theorem C20_nested_refused (w : World) (extras extras' : List Slot) (x x' : Exit) (wi : World)
    (h : (patchRun fixed w extras x).inside = some wi) :
    patchRun fixed wi extras' x' = ⟨.refused, none, wi⟩ := by
  obtain ⟨o, ho, hm⟩ := (C20_inside w extras x wi h (stdSlot .connect) List.mem_cons_self).1
  exact patchRun_refused (by simp [guardOk, ho, hm]) ..

/-- Regression witness for the repaired defect `C20/setup-failure-leaks`: as shipped (loop outside the try), an
    extra target in a missing module left `snowflake.connector.connect` patched, the instance open and the next
    patch() refused. -/
theorem C20_shipped_setup_failure_leaks :
    let w : World := { env := [((0, 0), .real .connect), ((1, 0), .real .writePandas)], loaded := [0, 1], importable := [] }
    let r := patchRun shipped w [(5, 0)] .normal
    r.outcome = .setupFailed .noModule ∧
    get r.after.env (0, 0) = some (.mock 0 .connect) ∧ r.after.closed = [] ∧
    (patchRun shipped r.after [] .normal).outcome = .refused := by decide +kernel

/-- Regression witness for the repaired defect `C20/lazy-import-keeps-mock`: with only the first repair, an extra
    target in a not-yet-imported module that does `from snowflake.connector import connect` was still this
    instance's MagicMock after the block (and, being a mock, was skipped by the next patch()). -/
theorem C20_shipped_lazy_import_keeps_mock :
    let w : World := { env := [((0, 0), .real .connect), ((1, 0), .real .writePandas)], loaded := [0, 1],
                       importable := [(7, [(0, .fromStd .connect)])] }
    let r := patchRun afterFirstFix w [(7, 0)] .normal
    r.outcome = .completed ∧ get r.after.env (7, 0) = some (.mock 0 .connect) ∧
    get (patchRun fixed w [(7, 0)] .normal).after.env (7, 0) = some (.real .connect) := by decide +kernel

/-- for `C20_inside`, `C20_nested_refused` and `WF` in `C20_reenter`: a from-import alias, a lazily imported module and a
    repeated target -/
example :
    let w : World := { env := [((0, 0), .real .connect), ((1, 0), .real .writePandas), ((3, 1), .real .connect)],
                       loaded := [0, 1, 3], importable := [(7, [(0, .fromStd .writePandas), (1, .other 4)])] }
    (patchRun fixed w [(3, 1), (7, 0), (3, 1)] .raises).outcome = .bodyRaised ∧
    WF w ∧ (patchRun fixed w [(3, 1), (7, 0), (3, 1)] .raises).inside.isSome = true := by
  refine ⟨by decide +kernel, ?_, by decide +kernel⟩
  intro f; cases f <;> decide

/-- **`split` never loses or reorders anything**: for every argv, fakesnow's part followed by the target's part is
    the argv. -/
theorem C20_split_total (args : List Tok) (inFlag : Bool) :
    (split args inFlag).1 ++ (split args inFlag).2 = args := by
  -- `case5`, `case7`: the two recursive branches of `split` (a dash token; the value of the flag before it)
  fun_induction split args inFlag with
  | case5 a _ _ _ _ _ _ ih => exact congrArg (a :: ·) ih
  | case7 a _ _ _ _ _ _ _ ih => exact congrArg (a :: ·) ih
  | _ => rfl

/-- **The target gets exactly its own arguments, in order**: for every sentence of the grammar
    `fsopt* (path | -m mod | --module mod | --module=mod | -mmod) targ*` — any number of fakesnow options in any of
    the forms `-d v`, `--db_path v`, `--db_path=v`, `-dv`, then the target, then *arbitrary* target arguments
    (including ones that look like fakesnow's own options) — `main` runs that target with `sys.argv` equal to its
    name followed by exactly `targs`, and with the last `db_path` given. -/
theorem C20_argv (opts : List FsOpt) (t : Target) (targs : List Tok)
    (ho : ∀ o ∈ opts, o.ok = true) (ht : t.ok = true) :
    main (render opts t targs) = specRun opts t targs := by
  unfold main mainWith
  simp only [split_render opts t targs ho ht, parse_grammar opts t ho ht]
  -- `mainWith` tests `module` / `path` for truthiness (`some (c :: _)`), and `ht` rules the empty name out
  cases t with
  | path p => cases p with
    | nil => cases ht
    | cons c q => rfl
  | mSp l m => cases m with
    | nil => cases ht
    | cons c q => rfl
  | mEq m => cases m with
    | nil => cases ht
    | cons c q => rfl
  | mAtt m => cases m with
    | nil => cases ht
    | cons c q => rfl

/-- Regression witness for the repaired defect `C20/argv-equals-forms`: as shipped, `--db_path=p s.py x` ran the
    script without its argument, `-mm a` ran the module without `a`, and `-dp s.py x` likewise. -/
theorem C20_argv_shipped_loses_args :
    mainOld (render [.dEq ['p']] (.path ['s', '.', 'p', 'y']) [['x']]) ≠ specRun [.dEq ['p']] (.path ['s', '.', 'p', 'y']) [['x']] ∧
    mainOld (render [] (.mAtt ['m']) [['a']]) ≠ specRun [] (.mAtt ['m']) [['a']] ∧
    mainOld (render [.dAtt ['p']] (.path ['s', '.', 'p', 'y']) [['x']]) ≠ specRun [.dAtt ['p']] (.path ['s', '.', 'p', 'y']) [['x']] := by
  decide +kernel

/-- for `C20_argv`: all four option forms, and target arguments that look like fakesnow's own options -/
example :
    let opts := [FsOpt.dSp false ['a'], .dEq ['-', 'x'], .dAtt ['q'], .dSp true ['b']]
    (∀ o ∈ opts, o.ok = true) ∧ (Target.mSp false ['m']).ok = true ∧
    main (render opts (.mSp false ['m']) [['-', 'm'], ['-', 'd'], ['k']]) =
      .runModule ['m'] [['m'], ['-', 'm'], ['-', 'd'], ['k']] (some ['b']) := by decide +kernel

end Fs.C20
