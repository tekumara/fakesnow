import Fs.Proofs.SchedLock
/-!
# C19 — concurrent sessions behave as if their statements ran one at a time   (partial)

Model `Fs/Model/Sched.lean`, lemmas `Fs/Proofs/Sched.lean` and `Fs/Proofs/SchedLock.lean` (the lock invariant).  The
predicates the statements use — `SC` (single-call statements), `Disj` over the footprints `keysOf`, and `nextKey` — are
defined in `Fs/Proofs/Sched.lean`.

A *schedule* is any list of session ids; a turn lets a session run up to and including its next engine call (or lock
operation).  The theorems quantify over **all** schedules.  What is not modelled (named in the claim): the scheduling
of real threads, the GIL, DuckDB's internal locking – one engine call is taken to be atomic.
-/
namespace Fs.C19
open Fs.Sched

/-- **Serializability, single-call statements**: when every statement of every session is one engine call
    (INSERT / UPDATE / DELETE / SELECT / SHOW …; any number of sessions, any programs, any shared tables), every
    schedule of engine calls *is* an execution of whole statements one at a time, in the order of the schedule:
    same final engine state, same results in every session. -/
theorem C19_serializable_single_call (c : Cfg) (h : SC c) (σ : List Nat) : runSched c σ = runStmts c σ := by
  induction σ generalizing c with
  | nil => rfl
  | cons i σ ih => rw [runSched, runStmts, stmtTurn_eq_turn (sc_turn c i h i).1]; exact ih _ (sc_turn c i h)

/-- Serializability at full strength: for every set of programs and every complete schedule of engine calls, the
    results seen by the sessions are the results of SOME order of whole statements.  **False** for the code: multi-call
    statements are observable half-done (`finding_*`, `C19_serializable_full_false`). -/
def C19_serializable_Full : Prop :=
  ∀ (progs : List (List Stmt)) (σ : List Nat),
    allDone (runSched (Cfg.init progs) σ) progs.length = true → serializableB progs σ = true

/-- **Independent turns commute** – the lemma behind the harness's schedule enumeration: swapping adjacent turns of
    different sessions that touch different keys changes nothing, so one representative per equivalence class suffices. -/
theorem C19_independent_commute (c : Cfg) (i j : Nat) (hij : i ≠ j)
    (hk : ∀ ki kj, nextKey c i = some ki → nextKey c j = some kj → ki ≠ kj) :
    turn (turn c i) j = turn (turn c j) i :=
  turn_comm c i j hij fun ki _ kj _ hi hj =>
    hk ki kj (congrArg (Option.map Prod.fst) hi) (congrArg (Option.map Prod.fst) hj)

/-- **Disjoint footprints: a session's turns can be moved to the front**: when the sessions' programs touch pairwise
    disjoint objects (each thread works on its own tables – multi-call statements, CREATE TABLE … COMMENT, MERGE included),
    every schedule gives the same outcome as letting any chosen session run first, all of its turns together, and the
    others afterwards in their order.  (About schedules of turns: the statement-level execution `runStmts` does not appear.) -/
theorem C19_serializable_disjoint (c : Cfg) (h : Disj c) (σ : List Nat) (i : Nat) :
    runSched c σ = runSched c (σ.filter (· == i) ++ σ.filter (· != i)) :=
  runSched_perm (List.filter_append_perm (· == i) σ).symm c h

/-- every session's program consists of `connect(database, schema)` calls under the instance lock: ANY of the four
    combinations of create_database_on_connect / create_schema_on_connect, any databases and schemas – in particular
    the *same* new database and schema in all sessions – and any spelling (letter case) of the names: `conn.py` folds
    the names before the ladder runs, and the lock is one per instance, not per name as written -/
def OnlyLockedConnects (progs : List (List Stmt)) : Prop :=
  ∀ p ∈ progs, ∀ st ∈ p, ∃ (cd cs : Bool) (d s : Name), st = connectSpelled (some 0) cd cs d s

/-- **Concurrent connects all succeed** (after the `fix:` commit that runs the connect bootstrap under an instance
    lock): for any number of sessions, any flag combination, any spelling of the names, any schedule, no engine call
    of any connect ever fails – the check-then-ATTACH / check-then-CREATE SCHEMA ladder is never raced. -/
theorem C19_locked_connects_succeed (progs : List (List Stmt)) (h : OnlyLockedConnects progs) (σ : List Nat) (i : Nat) :
    Res.err ∉ ((runSched (Cfg.init progs) σ).loc i).out := by
  refine guarded_never_fail progs (fun p hp st hst => ?_) σ i
  obtain ⟨cd, cs, d, s, rfl⟩ := h p hp st hst
  exact connectWith_guarded cd cs d.id s.id

/-- Witness for a lock keyed by the name *as written* (two spellings of one database → two locks): the sessions do not
    exclude each other and the second ATTACH fails under the alternating schedule.  (One lock per *folded* name would be
    fine; the model takes the lock number from the real trace, so either design is followed, not presumed.) -/
theorem C19_lock_per_spelling_races :
    Res.err ∈ ((runSched (Cfg.init [[connectSpelled (some 1) true true ⟨0, 0⟩ ⟨1, 0⟩],
                                    [connectSpelled (some 2) true true ⟨0, 1⟩ ⟨1, 0⟩]]) [0, 1, 0, 1, 0, 1]).loc 1).out := by
  decide +kernel

/-- Witness for "no lock when create_database_on_connect is off": two sessions creating the same new schema in an
    existing database race CREATE SCHEMA. -/
theorem C19_unlocked_schema_race :
    let c0 : Cfg := { g := setG (fun _ => {}) (.db 0) { ex := true, info := true },
                      loc := (Cfg.init [[connectWith none false true 0 1], [connectWith none false true 0 1]]).loc }
    Res.err ∈ ((runSched c0 [0, 1, 0, 1]).loc 1).out := by
  decide +kernel

/-- Regression witness for the repaired defect `C19/connect-race`: without the lock, two sessions connecting to the
    same new database under the alternating schedule both see "absent", both ATTACH, and the second one fails. -/
theorem C19_unlocked_connect_race :
    Res.err ∈ ((runSched (Cfg.init [[connectStmt false 0 1], [connectStmt false 0 1]]) [0, 1, 0, 1]).loc 1).out := by
  decide +kernel

/-- the same two connects with the lock, run to the end: nobody fails -/
example : ((runSched (Cfg.init [[connectStmt true 0 1], [connectStmt true 0 1]])
    [0, 1, 0, 1, 0, 1, 0, 0, 0, 0, 0, 1, 1, 1, 1, 1, 1]).loc 1).out = [.flag true, .flag true, .flag true] := by decide +kernel

/-- Finding `C19/torn-table-comment`: session 1's SHOW TABLES between the two engine calls of session 0's
    `CREATE TABLE t COMMENT = '…'` sees the table without its comment – an outcome no statement-level order produces
    (before the statement the table is absent, after it the comment is there). -/
theorem finding_C19_torn_table_comment :
    ((runSched (Cfg.init [[createTable 0 (some 7)], [showStmt 0]]) [0, 1, 0]).loc 1).out = [.tmeta true none] ∧
    ∀ τ ∈ [[0, 1], [1, 0]],
      ((runStmts (Cfg.init [[createTable 0 (some 7)], [showStmt 0]]) τ).loc 1).out ≠ [.tmeta true none] := by
  decide +kernel

/-- refuted by the programs and the schedule of `finding_C19_torn_table_comment`: the schedule is complete, and no order
    of the two whole statements gives session 1 its result -/
theorem C19_serializable_full_false : ¬ C19_serializable_Full := fun h =>
  absurd (h [[createTable 0 (some 7)], [showStmt 0]] [0, 1, 0] (by decide +kernel)) (by decide +kernel)

/-- Finding `C19/torn-merge`: session 1 reads the target between MERGE's UPDATE and INSERT. -/
theorem finding_C19_torn_merge :
    let progs := [[createTable 0 none, insertStmt 0 1 1, mergeStmt 0 [(1, 10), (2, 20)]], [selectStmt 0]]
    ((runSched (Cfg.init progs) [0, 0, 0, 1, 0]).loc 1).out = [.rows [(1, 10)]] ∧
    ∀ τ ∈ [[0, 0, 0, 1], [0, 0, 1, 0], [0, 1, 0, 0], [1, 0, 0, 0]],
      ((runStmts (Cfg.init progs) τ).loc 1).out ≠ [.rows [(1, 10)]] := by
  decide +kernel

/-- **No lost inserts**: concurrent single-call INSERTs into one table all arrive – whatever the schedule, two sessions
    inserting once each into an existing table end in the state, and with the results, of executing the INSERTs whole,
    one after the other in the order of the schedule. -/
theorem C19_no_lost_insert (σ : List Nat) :
    let progs := [[insertStmt 0 1 1], [insertStmt 0 2 2]]
    let c0 : Cfg := { g := setG (fun _ => {}) (.tbl 0) { ex := true }, loc := (Cfg.init progs).loc }
    runSched c0 σ = runStmts c0 σ :=
  C19_serializable_single_call _ (sc_init (by decide)) σ

example : SC { g := fun _ => {}, loc := (Cfg.init [[insertStmt 0 1 1, selectStmt 0], [insertStmt 0 2 2]]).loc } :=
  sc_init (by decide)

example : OnlyLockedConnects [[connectSpelled (some 0) true true ⟨0, 0⟩ ⟨1, 0⟩],
    [connectSpelled (some 0) true true ⟨0, 1⟩ ⟨1, 2⟩, connectSpelled (some 0) false true ⟨0, 2⟩ ⟨2, 0⟩],
    [connectSpelled (some 0) true false ⟨3, 0⟩ ⟨1, 0⟩, connectSpelled (some 0) false false ⟨3, 1⟩ ⟨1, 1⟩]] := by
  have ok {cd cs d s} : ∃ cd' cs' d' s', connectSpelled (some 0) cd cs d s = connectSpelled (some 0) cd' cs' d' s' :=
    ⟨_, _, _, _, rfl⟩
  simp only [OnlyLockedConnects, List.forall_mem_cons]
  exact ⟨⟨ok, nofun⟩, ⟨ok, ok, nofun⟩, ⟨ok, ok, nofun⟩, nofun⟩

end Fs.C19
