import Fs.Proofs.Errors
/-!
# C07 — failures are Snowflake errors with the right codes, and change nothing

`Fs.Err.execute` models `cursor.execute` / `_execute` (closed-connection guard, undefined-variable check, parse,
variable update, per-call pre-checks 90105/90106, the translated engine call, context bookkeeping, untranslated
follow-up calls).  The engine `eng : D → Q → Except DuckExc D` is a parameter: the general theorems hold for **every**
engine, state type and SQL type.  Which exception class DuckDB raises for which cause (`duckClass`, `reaction`) is modelled
engine behaviour, tied to the real stack by the correspondence check.
-/
namespace Fs.C07
open Fs.Err

/-- the four (errno, sqlstate) pairs the property names -/
def codeTable : List Code := [c2003, c2043, c90105, c90106]

/-- a statement that is one `_execute` call with nothing sent outside the translating `try`, and that does not
    touch session variables (every statement except SET/UNSET, MERGE, CREATE DATABASE, and DDL that records
    comments / text lengths in the side tables) -/
def SingleCall {Q} (s : Stmt Q) : Prop :=
  s.varUpdate = .none ∧ ∃ c, s.calls = [c] ∧ c.followups = []

/-- **Code table**: every cause the property lists is translated — DuckDB's Binder/Catalog classes become
    ProgrammingError 2043/02000 and 2003/42S02, the two pre-checks raise 90105 and 90106 with 22000, a closed
    connection becomes DatabaseError 250002/08003; errno and sqlstate always come as the listed pair. -/
theorem C07_codes :
    (∀ c ∈ Cause.all, ∃ code ∈ [c2003, c2043], mapExc (duckClass c) = some (.programming code)) ∧
    mapExc .catalog = some (.programming ⟨2003, "42S02"⟩) ∧ mapExc .binder = some (.programming ⟨2043, "02000"⟩) ∧
    mapExc .connection = some (.database ⟨250002, "08003"⟩) ∧ mapExc .txNoActive = none ∧
    c90105 = ⟨90105, "22000"⟩ ∧ c90106 = ⟨90106, "22000"⟩ := by decide +kernel

/-- **Never an engine-specific exception**: for every engine whose failures on this call are Binder or Catalog
    errors (the causes of the property), a single-call statement on an open connection ends in success or in a
    ProgrammingError whose (errno, sqlstate) is one of the four listed pairs — or, for an undefined session
    variable, a ProgrammingError raised before anything ran. -/
theorem C07_translated {D Q} (eng : D → Q → Except DuckExc D) (w : World D) (s : Stmt Q)
    (hopen : w.closed = false) (hp : s.parseError = false) (hs : SingleCall s)
    (heng : ∀ d q e, eng d q = .error e → e = .binder ∨ e = .catalog) :
    (execute eng w s).outcome = .ok ∨ (∃ c ∈ codeTable, (execute eng w s).outcome = .programming c) ∨
    (s.undefinedVar = true ∧ (execute eng w s).outcome = .programming cNone) := by
  obtain ⟨hv, c, hc, hf⟩ := hs
  cases hu : s.undefinedVar
  · rw [execute_single eng w c s hopen hu hp hv hc]
    rcases execCall_cases eng w c with ⟨_, h⟩ | ⟨_, h⟩ | ⟨e, he, h⟩ | ⟨d, _, h⟩ <;> rw [h]
    · exact .inr (.inl ⟨c90105, by simp [codeTable], rfl⟩)
    · exact .inr (.inl ⟨c90106, by simp [codeTable], rfl⟩)
    · rcases heng _ _ _ he with rfl | rfl
      · exact .inr (.inl ⟨c2043, by simp [codeTable], rfl⟩)
      · exact .inr (.inl ⟨c2003, by simp [codeTable], rfl⟩)
    · exact .inl (by rw [hf]; rfl)
  · rw [execute_undefinedVar eng w s hopen hu]
    exact .inr (.inr ⟨rfl, rfl⟩)

/-- **A failed statement changes nothing**: for every engine, every world and every single-call statement, if
    `execute` does not succeed — whatever the error: ProgrammingError, DatabaseError, or an untranslated one —
    the DuckDB state (data, catalog, open transaction), the session context and the variables are exactly
    what they were.  (Context is only written after the engine accepted the call, cursor.py:272-278.) -/
theorem C07_unchanged {D Q} (eng : D → Q → Except DuckExc D) (w : World D) (s : Stmt Q) (hs : SingleCall s)
    (hfail : (execute eng w s).outcome ≠ .ok) : (execute eng w s).world = w := by
  obtain ⟨hv, c, hc, hf⟩ := hs
  cases hcl : w.closed
  · cases hu : s.undefinedVar
    · cases hp : s.parseError
      · rw [execute_single eng w c s hcl hu hp hv hc] at hfail ⊢
        exact execCall_fail eng w c hf hfail
      · rw [execute_parseError eng w s hcl hu hp]
    · rw [execute_undefinedVar eng w s hcl hu]
  · rw [execute_closed eng w s hcl]

/-- **Pre-checks**: a name that needs a current database (schema) in a session that has none is rejected with
    90105 (else 90106) before the engine is consulted — for every engine, nothing changes. -/
theorem C07_precheck {D Q} (eng : D → Q → Except DuckExc D) (w : World D) (c : Call Q) :
    (c.noDatabase = true → w.sess.databaseSet = false → execCall eng w c = (w, .programming c90105)) ∧
    (¬ (c.noDatabase = true ∧ w.sess.databaseSet = false) → c.noSchema = true → w.sess.schemaSet = false →
        execCall eng w c = (w, .programming c90106)) := by
  -- the model's conditions read `¬ flag = true` where this statement says `flag = false`
  simp only [← Bool.not_eq_true]
  exact ⟨fun h1 h2 => execCall_noDatabase eng w c ⟨h1, h2⟩, fun h0 h1 h2 => execCall_noSchema eng w c h0 ⟨h1, h2⟩⟩

/-- **sqlstate after one execute**: `cursor.sqlstate` is the sqlstate of the ProgrammingError just raised, and
    `None` after a success (or after an error that is not a ProgrammingError). -/
theorem C07_sqlstate {D Q} (eng : D → Q → Except DuckExc D) (w : World D) (s : Stmt Q) :
    (execute eng w s).sqlstate = sqlstateOf (execute eng w s).outcome ∧
    (∀ c, (execute eng w s).outcome = .programming c → (execute eng w s).sqlstate = some c.sqlstate) ∧
    ((execute eng w s).outcome = .ok → (execute eng w s).sqlstate = none) := by
  -- each of the five exits of `execute` builds its result as `⟨w', sqlstateOf o, o⟩`
  have h : (execute eng w s).sqlstate = sqlstateOf (execute eng w s).outcome := by
    fun_cases execute eng w s <;> rfl
  exact ⟨h, fun c hc => by rw [h, hc]; rfl, fun hc => by rw [h, hc]; rfl⟩

/-- **sqlstate persists until the next execute**: over any sequence of cursor operations, after an `execute`
    followed by any number of fetches / description reads, `cursor.sqlstate` is still what that execute set;
    whatever was there before is gone (each execute resets it). -/
theorem C07_sqlstate_ops {D Q} (eng : D → Q → Except DuckExc D) (w : World D) (st : Option String)
    (before others : List (CurOp Q)) (s : Stmt Q) (ho : ∀ o ∈ others, o = .other) :
    (runOps eng w st (before ++ [.execute s] ++ others)).2 =
      (execute eng (runOps eng w st before).1 s).sqlstate := by
  rw [List.append_assoc, runOps_append]
  simp only [List.singleton_append, runOps]
  rw [runOps_others _ _ ho]

/-- **Closed connection**: every execute on a closed connection raises DatabaseError 250002/08003 — whatever the
    statement (undefined variable, unparsable text, SET, DDL …) — and nothing changes, for every engine. -/
theorem C07_closed {D Q} (eng : D → Q → Except DuckExc D) (w : World D) (s : Stmt Q) (h : w.closed = true) :
    (execute eng w s).outcome = .database ⟨250002, "08003"⟩ ∧ (execute eng w s).world = w ∧
    (execute eng w s).sqlstate = none := by
  rw [execute_closed eng w s h]
  exact ⟨rfl, rfl, rfl⟩

/-- **`description` on a closed connection / after the object vanished**: `description` re-describes through the same
    translating ladder as `execute`: on a closed connection it raises DatabaseError 250002/08003, and for every engine
    whose DESCRIBE fails only with Binder/Catalog errors (table or column dropped through another cursor since) it
    raises ProgrammingError 2043/02000 or 2003/42S02 — never an engine-specific exception (given the session still has the
    database/schema the last statement needed). -/
theorem C07_description_translated {D Q} (eng : D → Q → Except DuckExc D) (w : World D) (c : Call Q) (hf : c.followups = [])
    (hdb : ¬ (c.noDatabase = true ∧ ¬ w.sess.databaseSet = true)) (hsc : ¬ (c.noSchema = true ∧ ¬ w.sess.schemaSet = true))
    (heng : ∀ d q e, eng d q = .error e → e = .binder ∨ e = .catalog) :
    (w.closed = true → descriptionOutcome eng w c = .database ⟨250002, "08003"⟩) ∧
    (w.closed = false → descriptionOutcome eng w c = .ok ∨ descriptionOutcome eng w c = .programming c2043 ∨
        descriptionOutcome eng w c = .programming c2003) := by
  refine ⟨descriptionOutcome_closed eng w c hdb hsc, fun hcl => ?_⟩
  rw [descriptionOutcome_open eng w c hcl]
  cases he : eng w.duck c.sql with
  | ok d => exact .inl (by rw [execCall_ok eng w c hdb hsc he, hf]; rfl)
  | error e =>
    rw [execCall_error eng w c hdb hsc he]
    rcases heng _ _ _ he with rfl | rfl
    · exact .inr (.inl rfl)
    · exact .inr (.inr rfl)

/-- **A qualified `USE SCHEMA db.s` gives the session a current database *and* schema** — from any earlier state, in
    particular from "no current database": afterwards neither pre-check can fire, so every statement reaches the engine
    and its failures carry the engine's code (2003 / 2043), not 90105 / 90106. -/
theorem C07_use_schema_qualified {D Q} (eng : D → Q → Except DuckExc D) (w : World D) (sess : Session) (db sc : String) (c : Call Q) :
    let sess' := (CtxUpdate.setSchema sc (some db)).apply sess
    sess'.databaseSet = true ∧ sess'.schemaSet = true ∧ sess'.database = some db ∧ sess'.schema = some sc ∧
    (execCall eng { w with sess := sess' } c).2 ≠ .programming c90105 ∧
    (execCall eng { w with sess := sess' } c).2 ≠ .programming c90106 := by
  intro sess'
  have h := execCall_precheck_only eng { w with sess := sess' } c
  exact ⟨rfl, rfl, rfl, rfl, fun h1 => (h.1 h1).2 rfl, fun h2 => (h.2 h2).2 rfl⟩

/-- **Dropping the current schema leaves the session without one**: after a successful `DROP SCHEMA` of the current schema of a
    session that has a current database, the bookkeeping clears both the name and the flag and leaves the database flag set, so
    every later call that needs a current schema (an unqualified table name) is refused with 90106/22000 and the world
    unchanged — it cannot create or touch anything — for every engine. -/
theorem C07_drop_current_schema {D Q} (eng : D → Q → Except DuckExc D) (w : World D) (sess : Session) (cur : String) (c : Call Q)
    (hcur : sess.schema = some cur) (hdb : sess.databaseSet = true) :
    let sess' := (CtxUpdate.dropped false cur).apply sess
    sess'.schemaSet = false ∧ sess'.schema = none ∧ sess'.databaseSet = true ∧
    (c.noSchema = true → execCall eng { w with sess := sess' } c = ({ w with sess := sess' }, .programming c90106)) := by
  intro sess'
  have hs : sess' = { sess with schema := none, schemaSet := false } := if_pos hcur
  rw [hs]
  exact ⟨rfl, rfl, hdb, fun hns => execCall_noSchema eng _ c (fun h => h.2 hdb) ⟨hns, Bool.false_ne_true⟩⟩

/-- **Any use of a closed connection**: `commit()`, `rollback()`, a new cursor's `execute`, `execute_string`, `executemany`,
    `describe` (each: at least one `cursor.execute`), `write_pandas`, and `description` (of a statement whose pre-checks pass)
    all raise DatabaseError 250002/08003 and change nothing — for every engine. -/
theorem C07_closed_any_use {D Q} (eng : D → Q → Except DuckExc D) (w : World D) (hcl : w.closed = true) (u : ConnUse Q)
    (hne : ∀ ss, u = .viaExecute ss → ss ≠ [])
    (hpre : ∀ c, u = .description c → ¬ (c.noDatabase = true ∧ ¬ w.sess.databaseSet = true) ∧ ¬ (c.noSchema = true ∧ ¬ w.sess.schemaSet = true)) :
    u.run eng w = (w, .database ⟨250002, "08003"⟩) := by
  cases u with
  | viaExecute ss =>
    cases ss with
    | nil => exact absurd rfl (hne [] rfl)
    | cons s rest =>
      rw [ConnUse.run, runExecutes_fail eng w s rest (by rw [execute_closed eng w s hcl]; nofun), execute_closed eng w s hcl]
      rfl
  | writePandas q => exact if_pos hcl
  | description c =>
    obtain ⟨hdb, hsc⟩ := hpre c rfl
    rw [ConnUse.run, descriptionOutcome_closed eng w c hdb hsc hcl]
    rfl

/-- **Failures inside the caller's open transaction**: `executemany` is a run of `cursor.execute`s and stops at the first
    failure — if the first row's statement fails, the world (DuckDB state *including the caller's open transaction with its
    uncommitted work*, context, variables) is exactly what it was and the error is that statement's; nothing is rolled back or
    committed on the caller's behalf. -/
theorem C07_executemany_first_failure {D Q} (eng : D → Q → Except DuckExc D) (w : World D) (s : Stmt Q) (rest : List (Stmt Q))
    (hs : SingleCall s) (hfail : (execute eng w s).outcome ≠ .ok) :
    runExecutes eng w (s :: rest) = (w, (execute eng w s).outcome) := by
  rw [runExecutes_fail eng w s rest hfail, C07_unchanged eng w s hs hfail]

/-- **`write_pandas` fails like `execute`**: a Binder / Catalog error of the direct insert is raised as ProgrammingError
    2043/02000 / 2003/42S02, and a `write_pandas` that does not succeed leaves the world unchanged — for every engine. -/
theorem C07_write_pandas {D Q} (eng : D → Q → Except DuckExc D) (w : World D) (q : Q) (hopen : w.closed = false) :
    (eng w.duck q = .error .binder → (ConnUse.writePandas q).run eng w = (w, .programming c2043)) ∧
    (eng w.duck q = .error .catalog → (ConnUse.writePandas q).run eng w = (w, .programming c2003)) ∧
    (((ConnUse.writePandas q).run eng w).2 ≠ .ok → ((ConnUse.writePandas q).run eng w).1 = w) := by
  simp only [ConnUse.run, hopen, Bool.false_eq_true, if_false]
  refine ⟨fun h => by rw [h], fun h => by rw [h], ?_⟩
  split
  · exact fun h => absurd rfl h
  all_goals exact fun _ => rfl

/-- **CREATE/DROP SCHEMA: the database check follows the parse shape, not IF [NOT] EXISTS**: for both shapes sqlglot produces
    (normal; table-like for `DROP SCHEMA IF EXISTS`), "names no database" holds exactly when the name has one part — so
    `CREATE SCHEMA IF NOT EXISTS foo`, `DROP SCHEMA IF EXISTS foo` etc. need a current database like their plain spellings. -/
theorem C07_schema_ref_shapes (tableLike : Bool) (parts : Nat) :
    schemaNoDatabase (schemaNode tableLike parts) = decide (parts < 2) ∧
    schemaNoDatabase (schemaNode tableLike parts) = (unqualified .schema parts).1 := by
  have h : (!decide (2 ≤ parts)) = decide (parts < 2) := by simp [← Nat.not_le]
  cases tableLike <;> exact ⟨h, h⟩

/-- witness: decided from the `exists` flag, `CREATE SCHEMA IF NOT EXISTS foo` (flag set, normal shape, one part) would not
    need a current database. -/
theorem C07_schema_check_by_flag_wrong :
    schemaNoDatabaseByFlag true (schemaNode false 1) = false ∧ schemaNoDatabase (schemaNode false 1) = true := by decide

/-- known finding `C07/cte-reference-needs-context`: the pre-check looks at the first table expression of the statement, and a
    reference to the statement's own CTE looks like an unqualified table: `WITH c AS (SELECT * FROM db1.s1.t) SELECT * FROM c`
    is refused with 90105 in a session without a current database although nothing in it needs one (the engine would accept it). -/
theorem finding_C07_cte_reference_needs_context :
    execCall (fun (d : Nat) (_ : Nat) => .ok d) { duck := 0 } ⟨true, true, 0, .none, []⟩ = ({ duck := 0 }, .programming c90105) ∧
    execCall (fun (d : Nat) (_ : Nat) => .ok d) { duck := 0 } ⟨false, false, 0, .none, []⟩ = ({ duck := 0 }, .ok) := by
  constructor <;> rfl

/-- the full statement over the scenario table: every way of referring to something missing or duplicate, at
    every position, qualification level and session state, is a ProgrammingError with the matching code and
    changes nothing -/
def C07_table_Full : Prop := ∀ sc : Scenario, predict sc = specOutcome sc

/-- envelope: the scenarios outside the recorded finding regions -/
def InEnv (sc : Scenario) : Prop := scenarioFinding sc = none

instance (sc : Scenario) : Decidable (InEnv sc) := by unfold InEnv; infer_instance

/-- **Cause table, partial**: for every cause × position × qualification × session state outside the four
    finding regions (COMMENT ON a missing object, SHOW … IN a missing scope, DROP DATABASE), the model of the
    code yields exactly the demanded ProgrammingError — 90105/90106 when the session lacks the database/schema
    the name needs, else 2003/42S02 or 2043/02000 by cause — and leaves everything unchanged. -/
theorem C07_table_partial (sc : Scenario) (h : InEnv sc) : predict sc = specOutcome sc := by
  unfold specOutcome
  by_cases hdb : (unqualified sc.refKind sc.qual.parts).1 = true ∧ ¬ sc.dbSet = true
  · rw [if_pos hdb]
    exact predict_of_unchanged (execCall_noDatabase sc.eng sc.world sc.call hdb)
  rw [if_neg hdb]
  by_cases hsc : (unqualified sc.refKind sc.qual.parts).2 = true ∧ ¬ sc.schemaSet = true
  · rw [if_pos hsc]
    exact predict_of_unchanged (execCall_noSchema sc.eng sc.world sc.call hdb hsc)
  rw [if_neg hsc]
  -- both pre-checks pass, so outside the finding regions DuckDB raises the class of the cause, which the ladder translates
  have he := Scenario.eng_raises (reaction_of_noFinding h hdb hsc) 0
  have hc := execCall_error sc.eng sc.world sc.call hdb hsc he
  rw [mapExc_duckClass] at hc
  exact predict_of_unchanged hc

/-- known finding `C07/comment-on-missing-table`: COMMENT ON a table that does not exist succeeds and writes the
    side table. -/
theorem finding_C07_comment_on_missing_table :
    predict ⟨.unknownTable, .commentTarget, .noTable, .name, true, true⟩ = (.ok, true) := by decide

/-- known finding `C07/comment-on-missing-database-raw`: COMMENT ON nodb.s.t — the side-table insert raises a raw
    BinderException outside the translating `try`. -/
theorem finding_C07_comment_on_missing_database_raw :
    (predict ⟨.unknownDatabase, .commentTarget, .noTable, .full, true, true⟩).1 = .rawDuck .binder := by decide

/-- known finding `C07/show-in-missing-scope`: SHOW … IN SCHEMA/DATABASE <missing> returns an empty result. -/
theorem finding_C07_show_in_missing_scope :
    (predict ⟨.unknownSchema, .showScope, .noTable, .name, true, true⟩).1 = .ok := by decide

/-- known finding `C07/drop-database-parser-error`: DROP DATABASE reaches the caller as DuckDB's ParserException. -/
theorem finding_C07_drop_database_parser_error :
    (predict ⟨.unknownDatabase, .dropDatabase, .database, .name, true, true⟩).1 = .rawDuck .parser := by decide

/-- so the full cause table is false (COMMENT ON a missing table is the witness) -/
theorem C07_table_full_false : ¬ C07_table_Full := fun h =>
  absurd ((h _).symm.trans finding_C07_comment_on_missing_table) (by decide)

/-- the full "changes nothing / never raw" statement without the single-call restriction -/
def C07_unchanged_Full : Prop :=
  ∀ (eng : Nat → Nat → Except DuckExc Nat) (w : World Nat) (s : Stmt Nat),
    (execute eng w s).outcome ≠ .ok → (execute eng w s).world.duck = w.duck

/-- known finding `C07/multi-call-partial-effects`: a statement executed as several engine calls (MERGE: helper
    table, then one DML per clause) keeps the effects of the calls before the failing one. -/
theorem finding_C07_multi_call_partial_effects :
    let eng : Nat → Nat → Except DuckExc Nat := fun d q => if q = 0 then .ok (d + 1) else .error .binder
    let s : Stmt Nat := { calls := [⟨false, false, 0, .none, []⟩, ⟨false, false, 1, .none, []⟩] }
    (execute eng { duck := 0 } s).outcome = .programming c2043 ∧ (execute eng { duck := 0 } s).world.duck = 1 :=
  ⟨rfl, rfl⟩

/-- so "a failed statement changes nothing" is false without the single-call restriction -/
theorem C07_unchanged_full_false : ¬ C07_unchanged_Full := fun h => by
  obtain ⟨ho, hd⟩ := finding_C07_multi_call_partial_effects
  have := h _ _ _ (by rw [ho]; nofun)
  rw [hd] at this
  exact absurd this (by decide)

/-- known finding `C07/unset-undefined-variable`: UNSET of a variable that is not set escapes as a bare KeyError. -/
theorem finding_C07_unset_undefined_variable :
    (execute (fun (d : Nat) (_ : Nat) => .ok d) { duck := 0 } { varUpdate := .unset "V", calls := [] }).outcome
      = .rawPy .keyError := by decide

/-- regression witness for the repaired defect `C07/closed-connection-client-side-first`: before the guard, an
    undefined variable on a closed connection raised its own ProgrammingError, and SET changed the variables
    although the statement failed. -/
theorem C07_old_closed_client_side_first :
    (executeOld (fun (d : Nat) (_ : Nat) => .ok d) { duck := 0, closed := true } { undefinedVar := true, calls := [] }).outcome
      = .programming cNone ∧
    (executeOld (fun (d : Nat) (_ : Nat) => .ok d) { duck := 0, closed := true }
        { varUpdate := .set "V" "1", calls := [⟨false, false, 0, .none, []⟩] }).world.sess.vars = [("V", "1")] :=
  ⟨rfl, rfl⟩

example : InEnv ⟨.unknownTable, .query, .table, .schemaName, true, false⟩ := by decide
example : predict ⟨.unknownColumn, .dmlTarget, .table, .name, true, false⟩ = (.programming c90106, false) := by decide +kernel
example : SingleCall ({ calls := [⟨true, true, 7, .setSchema "S" none, []⟩] } : Stmt Nat) := ⟨rfl, _, rfl, rfl⟩

end Fs.C07
