import Fs.Proofs.Crash
import Fs.Proofs.Basic
/-!
# C18 — with db_path, committed state survives exit, exceptions and kills   (partial)

Model `Fs/Model/Crash.lean`, lemmas `Fs/Proofs/Crash.lean`.

What is proved is the **logic**: fakesnow's decomposition of statements into engine calls (`calls`), with DuckDB
taken as a durable log (a call outside a transaction is durable when it returns; BEGIN…COMMIT is durable at COMMIT;
nothing else reaches the file).  A kill is a cut of the flattened call sequence after `k` calls; clean exit and an
exception leaving `patch()` are the cut after the last call.  DuckDB's WAL/fsync behaviour, the atomicity of a single
engine call and the OS are **trusted**, and validated on every run by killing real processes at every engine call.

A well-formed history is a list of `TxUnit`s (autocommit statement | BEGIN…COMMIT block | BEGIN…ROLLBACK block |
BEGIN…COMMIT block whose COMMIT fails).
-/
namespace Fs.C18
open Fs.Crash

def Ok (us : List TxUnit) : Prop := ∀ u ∈ us, u.ok = true

def ncalls (us : List TxUnit) : Nat := (flat (hist us)).length

/-- **Characterisation, all histories × all crash points**: from any durable log, after a kill following exactly `k`
    engine calls, a later process finds: the old log, then the effects of every unit completed before the kill (in
    order; nothing for rolled-back blocks), then the durable prefix of the interrupted unit – which is empty when the
    interrupted unit is a transaction block. -/
theorem C18_crash_characterisation (us : List TxUnit) (hok : Ok us) (log : List Eff) (k : Nat) :
    recover (crash ⟨log, none⟩ (hist us) k) = log ++ crashSpec us k := by
  induction us generalizing log k with
  | nil => simp [recover, crash, hist, flat, Eng.run, crashSpec]
  | cons u us ih =>
    rw [Ok, List.forall_mem_cons] at hok
    rw [crash, flat_hist_cons, List.take_append, run_append, crashSpec]
    split
    next hk => rw [List.take_of_length_le hk, unit_complete u hok.1, ← List.append_assoc]; exact ih hok.2 _ _
    next hk =>
      rw [Nat.sub_eq_zero_of_le (Nat.le_of_not_le hk), List.take_zero]
      exact unit_partial u hok.1 log k (Nat.lt_of_not_le hk)

theorem crashSpec_done (done rest : List TxUnit) (k : Nat) (hk : ncalls done ≤ k) :
    crashSpec (done ++ rest) k = done.flatMap TxUnit.eff ++ crashSpec rest (k - ncalls done) := by
  induction done generalizing k with
  | nil => rfl
  | cons u us ih =>
    have hn : ncalls (u :: us) = (flat u.stmts).length + ncalls us := by
      rw [ncalls, flat_hist_cons, List.length_append]; rfl
    rw [hn] at hk ⊢
    rw [List.cons_append, crashSpec, if_pos (Nat.le_of_add_right_le hk), ih _ (Nat.le_sub_of_add_le' hk),
      List.flatMap_cons, List.append_assoc, Nat.sub_sub]

/-- **Committed work survives**: every unit that completed (and, for a block, committed) before the kill point is
    found by the later process, completely and in order, whatever was running when the process died. -/
theorem C18_committed_survive (done rest : List TxUnit) (hok : Ok (done ++ rest)) (log : List Eff) (k : Nat)
    (hk : ncalls done ≤ k) :
    (log ++ done.flatMap TxUnit.eff) <+: recover (crash ⟨log, none⟩ (hist (done ++ rest)) k) := by
  rw [C18_crash_characterisation _ hok, crashSpec_done done rest k hk, ← List.append_assoc]
  exact List.prefix_append _ _

/-- **Clean exit / exception leaving `patch()`**: after the last call the files hold exactly the committed units. -/
theorem C18_clean_exit (us : List TxUnit) (hok : Ok us) (log : List Eff) :
    recover (finish ⟨log, none⟩ (hist us)) = log ++ us.flatMap TxUnit.eff := by
  have h : crashSpec us (ncalls us) = us.flatMap TxUnit.eff := by
    simpa [crashSpec] using crashSpec_done us [] _ (Nat.le_refl _)
  rw [← crash_length, C18_crash_characterisation us hok]
  exact congrArg _ h

/-- **A COMMIT that fails commits nothing**: when DuckDB rejects the COMMIT of a transaction (commit-time PRIMARY KEY /
    UNIQUE conflict with a concurrent transaction of the same instance) the exception reaches the caller
    (`cursor.py:259-266` turns only "no transaction is active" into the success row) and a later process finds none of
    that transaction's work – exactly what the session was told.  (A handler that answers every failing COMMIT with the
    success row tells the session "committed" for work that `recover` does not contain.) -/
theorem C18_failed_commit_leaves_nothing (done : List TxUnit) (body : List Stmt) (hok : Ok (done ++ [.txf body]))
    (log : List Eff) :
    recover (finish ⟨log, none⟩ (hist (done ++ [.txf body]))) = log ++ done.flatMap TxUnit.eff := by
  rw [C18_clean_exit _ hok]; simp [TxUnit.eff]

/-- **Leaving a `with` block is not a commit**: a transaction opened with BEGIN inside
    `with snowflake.connector.connect(...) as conn:` (or a cursor `with` block) and still open when the block ends stays
    uncommitted – `__exit__` issues no engine call – so when the process ends after the block (`finish`: no call is left
    for a kill to fall between), a later process finds exactly what was durable before the BEGIN. -/
theorem C18_with_exit_is_not_a_commit (log : List Eff) (body : List Stmt) (hb : (body.all fun s => !s.isTxCtl && !s.isAttach) = true) :
    calls .connExit = [] ∧
    recover (finish ⟨log, none⟩ (.begin :: body ++ [.connExit])) = log := by
  refine ⟨rfl, ?_⟩
  rw [finish, run_block hb]; rfl

/-- **Durable means durable** (any history, well-formed or not): what is found after a kill at `k` is a prefix of
    what is found after a kill at any later point – later activity never loses or reorders committed effects. -/
theorem C18_durable_monotone (e : Eng) (h : List Stmt) (k k' : Nat) (hkk : k ≤ k') :
    recover (crash e h k) <+: recover (crash e h k') := by
  obtain ⟨t, ht⟩ := List.take_prefix_take_left (l := flat h) hkk
  rw [crash, crash, ← ht, run_append]
  exact disk_mono

/-- the log `crashSpec` predicts for a kill after `j` calls of unit `u`; by `C18_interrupted` it is what a later process finds -/
def tornAt (log : List Eff) (done : List TxUnit) (u : TxUnit) (j : Nat) : List Eff :=
  log ++ done.flatMap TxUnit.eff ++ u.partialEff j

/-- **Interrupted unit**: a kill after all the calls of the units `done` and `j` calls of the next unit `u` leaves the old
    log, the effects of `done`, and the durable prefix of `u` -/
theorem C18_interrupted (done rest : List TxUnit) (u : TxUnit) (hok : Ok (done ++ u :: rest)) (log : List Eff) (j : Nat)
    (hj : j < (flat u.stmts).length) :
    recover (crash ⟨log, none⟩ (hist (done ++ u :: rest)) (ncalls done + j)) = tornAt log done u j := by
  rw [C18_crash_characterisation _ hok, crashSpec_done done (u :: rest) _ (Nat.le_add_right _ _),
    Nat.add_sub_cancel_left, crashSpec_lt u rest hj, tornAt, List.append_assoc]

/-- **Uncommitted work is absent**: a kill anywhere inside a BEGIN … COMMIT block (before the COMMIT call returned)
    or a BEGIN … ROLLBACK block leaves exactly the state before the BEGIN. -/
theorem C18_uncommitted_absent (done rest : List TxUnit) (u : TxUnit) (hok : Ok (done ++ u :: rest))
    (hu : ∃ b, u = .txc b ∨ u = .txr b ∨ u = .txf b) (log : List Eff) (k : Nat)
    (hk : ncalls done ≤ k) (hk' : k < ncalls done + (flat u.stmts).length) :
    recover (crash ⟨log, none⟩ (hist (done ++ u :: rest)) k) = log ++ done.flatMap TxUnit.eff := by
  obtain ⟨j, rfl⟩ := Nat.exists_eq_add_of_le hk
  rw [C18_interrupted done rest u hok log j (Nat.lt_of_add_lt_add_left hk')]
  obtain ⟨b, rfl | rfl | rfl⟩ := hu <;> exact List.append_nil _

/-- Statement atomicity at full strength: an interrupted unit is fully there or not at all.  **False** for fakesnow's
    multi-call statements in autocommit (see the `finding_` theorems). -/
def C18_stmt_atomic_Full : Prop :=
  ∀ (log : List Eff) (done : List TxUnit) (u : TxUnit) (j : Nat), u.ok = true → j < (flat u.stmts).length →
    tornAt log done u j = log ++ done.flatMap TxUnit.eff ∨
    tornAt log done u j = log ++ done.flatMap TxUnit.eff ++ u.eff

/-- **Statement atomicity, partial**: a unit is fully there or not at all when it is a transaction block (whatever
    multi-call statements it contains) or a statement with at most one durable engine call (INSERT/UPDATE/DELETE,
    COMMENT ON, CREATE SCHEMA/VIEW, DROP, CREATE TABLE without comment and lengths, SELECT). -/
theorem C18_stmt_atomic_partial (log : List Eff) (done : List TxUnit) (u : TxUnit) (j : Nat)
    (hat : u.atomic = true) :
    tornAt log done u j = log ++ done.flatMap TxUnit.eff ∨
    tornAt log done u j = log ++ done.flatMap TxUnit.eff ++ u.eff := by
  have : u.partialEff j = [] ∨ u.partialEff j = u.eff := by
    cases u with
    | auto s => exact prefix_of_length_le_one (partialEff_prefix j) (of_decide_eq_true hat)
    | _ => exact .inl rfl
  rw [tornAt]
  exact this.imp (fun h => by rw [h, List.append_nil]) (fun h => by rw [h])

/-- Finding `C18/torn-table-metadata`: `CREATE TABLE t (… VARCHAR(10)) COMMENT = '…'` killed after the DDL call:
    the table is there, its comment and VARCHAR length are not. -/
theorem finding_C18_torn_table_metadata :
    tornAt [] [] (.auto (.createTable 0 (some 7) (some 10))) 1 = [.mkTable 0] ∧
    (TxUnit.auto (.createTable 0 (some 7) (some 10))).eff = [.mkTable 0, .setComment 0 7, .setLen 0 10] := by
  decide +kernel

/-- Finding `C18/torn-merge`: MERGE killed between its UPDATE and its INSERT: matched rows updated, unmatched not inserted. -/
theorem finding_C18_torn_merge :
    (dump (tornAt [.mkTable 0, .rows 0 (.ins 1 1)] [] (.auto (.merge 0 [(1, 10), (2, 20)])) 4)).tables
      = [⟨0, none, none, [(1, 10)]⟩] ∧
    (dump ([.mkTable 0, .rows 0 (.ins 1 1)] ++ (TxUnit.auto (.merge 0 [(1, 10), (2, 20)])).eff)).tables
      = [⟨0, none, none, [(1, 10), (2, 20)]⟩] := by
  decide +kernel

/-- the torn CREATE TABLE of `finding_C18_torn_table_metadata` is neither of the two states the full statement allows -/
theorem C18_stmt_atomic_full_false : ¬ C18_stmt_atomic_Full := by
  intro h
  have := h [] [] (.auto (.createTable 0 (some 7) (some 10))) 1 rfl (by decide)
  revert this; decide

/-- inside an explicit transaction the multi-call statements of the two findings cannot be torn: a kill anywhere in a
    BEGIN … COMMIT block leaves nothing of it (the `txc` case of `C18_stmt_atomic_partial`) -/
theorem C18_tx_block_atomic (log : List Eff) (done : List TxUnit) (body : List Stmt) (j : Nat) :
    tornAt log done (.txc body) j = log ++ done.flatMap TxUnit.eff :=
  List.append_nil _

/-- Regression witness for repair 0e75b9f (`C13/merge-commit-conflict-on-bogus-comment`): `mergeCallsOld`, MERGE's calls
    before the repair, contains one more durable call – an upsert of the key `(db, schema, 'MERGE_CANDIDATES')` in
    `_fs_tables_ext`, the same key for every MERGE of every session (so two overlapping transactions containing a MERGE
    conflicted at COMMIT); `calls (.merge …)`, the decomposition as it is, writes the target table only. -/
theorem C18_merge_no_bookkeeping_write (t : Nat) (src : List (Nat × Nat)) :
    Eff.junkComment ∈ (mergeCallsOld t src).filterMap wOf ∧
    effs (.merge t src) = [.rows t (.mergeUpd src), .rows t (.mergeIns src)] :=
  ⟨.head _, rfl⟩

/-- **CREATE DATABASE / connect bootstrap heal**: the state "file attached, info-schema extensions (and macros) not yet
    created" has the same observable dump as the completed state: `dump` does not look at the `info`/`macros` effects
    (`applyEff` ignores them).  That the next `connect` re-runs the idempotent bootstrap is why the model may ignore them;
    it is not modelled.  (So the two-call CREATE DATABASE is *not* observably torn.) -/
theorem C18_create_database_heals (log : List Eff) (d : Nat) :
    dump (log ++ [.attach d]) = dump (log ++ [.attach d, .info d]) ∧
    dump (log ++ [.attach d]) = dump (log ++ [.attach d, .info d, .macros d]) := by
  have hi := dump_snoc_noop (log ++ [.attach d]) (.info d) fun _ => rfl
  have hm := dump_snoc_noop (log ++ [.attach d, .info d]) (.macros d) fun _ => rfl
  rw [List.append_assoc] at hi hm
  exact ⟨hi.symm, (hm.trans hi).symm⟩

/-- **In-memory instances never touch the disk, and directories do not interfere**: an instance without db_path
    leaves every directory unchanged and reads nothing durable; an instance with db_path `p` changes directory `p` only. -/
theorem C18_memory_isolated (fs : Files) (h : List Stmt) (k : Nat) :
    runInst fs none h k = fs ∧ visible fs none = [] ∧
    ∀ p q, q ≠ p → runInst fs (some p) h k q = fs q :=
  ⟨rfl, rfl, fun _ _ hq => if_neg hq⟩

def demo : List TxUnit :=
  [.auto (.connect true true 1), .txc [.createTable 0 (some 7) (some 10), .dml 0 (.ins 1 1)],
   .auto (.dml 0 (.ins 2 2)), .txr [.dml 0 (.del 1)], .auto (.merge 0 [(1, 10), (3, 30)])]

example : Ok demo := by unfold Ok demo; decide +kernel

/-- killed inside the transaction block (after BEGIN, CREATE TABLE, its comment upsert): only the connect effects are there -/
example : recover (crash Eng.init (hist demo) 12) = [.attach 0, .info 0, .macros 0, .mkSchema 1] := by decide +kernel

example : (dump (recover (finish Eng.init (hist demo)))).tables = [⟨0, some 7, some 10, [(1, 10), (2, 2), (3, 30)]⟩] := by decide +kernel

end Fs.C18
