import Fs.Proofs.Params
import Fs.Proofs.StrLit
/-!
# C08 — bound parameters arrive as data, whatever they contain

Models: `Fs.Params` (`_rewrite_with_params`, the connector's `escape`/`quote`, `str % params`, the paramstyle snapshot,
the DuckDB generator/lexer for string literals, qmark binding) and `Fs.Lex` (sqlglot's Snowflake tokenizer
at character level).  `harness/props/c08.py` ties each of them to the real code on every run.

Reading of the property: a bound value `v` must reach the engine as the *one token* a correctly written
literal of `v` is, with the rest of the statement tokenised exactly as in the template — then parser,
rewrites and engine see the same statement as with the literal written out, whatever `v` contains.
-/
namespace Fs.C08
open Fs.Lex Fs.Params

/-- The connector's `escape` (four sequential `str.replace` calls — `\`, newline, CR, `'`, in that
    order) is a single left-to-right pass: no replacement ever re-reads the output of an earlier one. -/
theorem C08_escape_single_pass (s : List Char) : escapeSeq s = escape s := by
  unfold escapeSeq
  fun_induction escape s <;> simp [replaceChar, *]

/-- **Round trip**: for every string `s` (any characters: quotes, backslashes, newlines, `%`, `$`, `?`,
    `;`, comment markers, NUL, astral…) the tokenizer, positioned just after the opening quote, reads
    `escape s` followed by the closing quote as the STRING token with value exactly `s`, and continues
    with `rest` from a token start. -/
theorem C08_roundtrip (s rest : List Char) (h : rest.head? ≠ some '\'') :
    lexFrom (.str []) (escapeSeq s ++ '\'' :: rest) = (lex rest).map (.str s :: ·) := by
  rw [C08_escape_single_pass]; exact lexFrom_str_close (run_str_escape [] s) rest h

/-- **No structure change**: let `pre` be any text that leaves the tokenizer between tokens (outside
    every string, identifier and comment: `st.boundary`), `post` any text not starting with a quote.
    Then the text with the bound string substituted tokenises as: the tokens of `pre`, ONE string token
    whose value is `s`, the tokens of `post` — for every `s`.  (`pre`/`post` may themselves contain
    earlier/later substituted values, so this covers every placeholder of a statement in turn.) -/
theorem C08_structure (pre post s : List Char) (tp : List Tok) (st : St)
    (hpre : run .top pre = (tp, st)) (hb : st.boundary = true) (hpost : post.head? ≠ some '\'') :
    lex (pre ++ (Val.str s).lit ++ post) =
      (lex pre).bind fun a => (lex post).map fun b => a ++ .str s :: b := by
  rw [Val.lit, C08_escape_single_pass]
  exact lex_quoted hpre hb (run_str_escape [] s) post hpost

/-- `C08_structure` on the template `select -%s;`, where a `-` is still pending when the value starts -/
example : lex ("select -".toList ++ (Val.str "x' or 1=1 --".toList).lit ++ ";".toList) =
    some ("select-".toList.map .chr ++ [.str "x' or 1=1 --".toList, .semi]) := by string_lits; decide +kernel

/-- Where the hypothesis on `pre` is needed: a placeholder written directly after a closing quote
    (`'a'%s`) merges with that literal — `'a''b'` is one string `a'b`. -/
theorem C08_structure_needs_boundary :
    lex ("'a'".toList ++ (Val.str ['b']).lit) = some [.str "a'b".toList] := by string_lits; decide +kernel

/-- **Unquoted literals** (`NULL`, `TRUE`, `FALSE`, numbers written without a `-`): a text of letters, digits, `.`, `+`
    read outside strings/comments yields exactly its own characters and leaves the tokenizer outside
    strings/comments — it opens nothing.  A negative number or a negative exponent is not covered: see `C08_negative_after_minus`. -/
theorem C08_plain_literal (st : St) (h : st.outside) (t : List Char) (ht : ∀ c ∈ t, isPlainChar c = true) :
    (run st t).1 = t.map .chr ∧ (run st t).2.outside := by
  induction t generalizing st with
  | nil => exact ⟨rfl, h⟩
  | cons c cs ih =>
    have hc := step_outside_plain st h c (ht c (by simp))
    have := ih (step st c).2 hc.2 (fun d hd => ht d (by simp [hd]))
    simp [run, hc.1, this.1, this.2]

/-- The one way a numeric value can change structure: a negative number substituted directly after a
    `-` of the template starts a comment (`3-%s` with `-5` is `3--5`).  The connector renders the same
    text; such templates are outside the envelope of the correspondence. -/
theorem C08_negative_after_minus : lex ("3-".toList ++ (Val.num "-5".toList).lit) = some [.chr '3'] := by
  string_lits; decide +kernel

/-- **pyformat with a sequence**: for every template made of `%`-free text, `%%`, `%s`, `%(k)s` and every
    argument list, Python's `%` yields exactly: text copied, `%%` ↦ `%`, the i-th `%s` ↦ the i-th value
    **inserted as it is** (a value containing `%s`, `%(x)s` or `%%` is not scanned again), error on a
    wrong argument count. -/
theorem C08_pyformat_seq (ps : List Piece) (hw : ∀ p ∈ ps, p.wf) (vs : List (List Char)) :
    fmt (render ps) (.seq vs) = substSeq ps vs := fmtGo_seq ps hw vs

/-- **pyformat with a dict**: `%(k)s` ↦ the value bound to `k` (any number of times), values inserted as
    they are; a missing key is an error. -/
theorem C08_pyformat_map (ps : List Piece) (hw : ∀ p ∈ ps, p.wf) (kv : List (List Char × List Char)) :
    fmt (render ps) (.map kv) = substMap kv ps := fmtGo_map kv ps hw

example : fmt "a %s %% %s".toList (.seq ["%s".toList, "%(x)s".toList]) = .ok "a %s % %(x)s".toList := by
  string_lits; decide +kernel

/-- **Variables are inlined before values are substituted**: whatever the variable phase does, it is
    applied to the command text only; the text executed is the formatted *inlined command*, so a `$name`
    inside a parameter value is never inlined.  With no (or empty) params the command is not formatted. -/
theorem C08_after_vars (inline : List Char → Option (List Char)) (style : Style) (cmd : List Char) (a : Args) :
    phases inline style cmd a =
      (inline cmd).map fun c =>
        if a.isEmpty then (.ok c, false)
        else if style.clientSide then (fmt c a, false) else (.ok c, true) := by
  unfold phases rewrite
  cases inline cmd <;> cases a.isEmpty <;> cases style.clientSide <;> simp

/-- **No binding state**: whatever a cursor executed before (and after), the k-th `execute` substitutes exactly
    the literals of its own values into its own command — an earlier binding of an equal-looking value of another
    type (`True` before `1.0`, `Decimal('1.1')` before `Decimal('1.10')`) cannot influence it. -/
theorem C08_no_binding_state (style : Style) (before after : List (List Char × Args)) (c : List Char) (a : Args) :
    (cursorRun style (before ++ (c, a) :: after))[before.length]? = some (rewrite style c a) := by
  simp [cursorRun_eq_map]

/-- **Re-using the parameter container**: binding the same dict / tuple / list again gives, every time, exactly what
    binding it once gives — `_rewrite_with_params` returns new values and leaves the caller's container as it was
    (in the model the arguments are immutable; the correspondence checks the caller's object after every call). -/
theorem C08_same_container_rebinding (style : Style) (c : List Char) (a : Args) (times : Nat) :
    rebind style c a times = List.replicate times (rewrite style c a) := by
  simp [rebind, cursorRun_eq_map]

/-- **executemany = execute per row**: the k-th parameter set is bound exactly as a single `execute` of the same
    command with that set would bind it — for every paramstyle (there is no separate path for engine-side styles). -/
theorem C08_executemany_rowwise (style : Style) (c : List Char) (before after : List Args) (a : Args) :
    (executeMany style c (before ++ a :: after))[before.length]? = some (rewrite style c a) := by
  simp [executeMany, cursorRun_eq_map]

/-- **`%(name)s` with a mapping is client-side binding under `format` as under `pyformat`** -/
theorem C08_format_dict_client_side (c : List Char) (kv : List (List Char × List Char)) (h : kv ≠ []) :
    rewrite .format c (.map kv) = (fmt c (.map kv), false) ∧ rewrite .pyformat c (.map kv) = (fmt c (.map kv), false) := by
  have he : (Args.map kv).isEmpty = false := by simpa [Args.isEmpty] using h
  exact ⟨rewrite_clientSide rfl c he, rewrite_clientSide rfl c he⟩

/-- values that compare equal in Python but have different types have different literals -/
theorem C08_typed_literals :
    (Val.bool true).lit ≠ (Val.num "1.0".toList).lit ∧ (Val.bool false).lit ≠ (Val.num "0.0".toList).lit ∧
    (Val.str "1.1".toList).lit ≠ (Val.str "1.10".toList).lit ∧ (Val.num "2.5".toList).lit ≠ (Val.str "2.5".toList).lit := by
  string_lits; decide +kernel

/-- an aware datetime is rendered with its own wall-clock fields and its own offset — not shifted to UTC -/
example : dtText 2020 1 2 3 4 5 0 (some 300) = "2020-01-02 03:04:05+05:00".toList ∧
    dtText 2020 1 2 3 4 5 678 (some (-480)) = "2020-01-02 03:04:05.000678-08:00".toList ∧
    dtText 987 12 31 23 59 59 0 none = "987-12-31 23:59:59".toList := by string_lits; decide +kernel

/-- the rendered text of an aware datetime ends with its own offset `±HH:MM`, whatever the other fields are -/
theorem C08_datetime_keeps_offset (y mo d h mi s us : Nat) (o : Int) :
    ∃ front, dtText y mo d h mi s us (some o) =
      front ++ ((if o ≥ 0 then '+' else '-') :: pad 2 (o.natAbs / 60) ++ ':' :: pad 2 (o.natAbs % 60)) :=
  ⟨_, rfl⟩

/-- **qmark**: the command text is handed on unchanged.  (`numeric` takes the same branch of `rewrite`; that the values are still
    to be bound by the engine is the second component of its result, not stated here.) -/
theorem C08_qmark_text_unchanged (cmd : List Char) (a : Args) :
    (rewrite .qmark cmd a).1 = .ok cmd := by simp [rewrite, Style.clientSide]

/-- **Paramstyle snapshot**: for every history of `snowflake.connector.paramstyle = …` assignments,
    connects and statements, a statement on the connection opened after `before` runs under the paramstyle
    that was in force when that connection was made — later assignments (in `later`) do not matter. -/
theorem C08_paramstyle_snapshot (before later : List POp) :
    (prun {} (before ++ .connect :: later ++ [.exec (nconnects before)])).2.getLast? =
      some (some (prun {} before).1.global) := by
  -- the `connect` appends the global style at index `nconnects before`, and `later` only appends behind it
  have hk : (prun {} before).1.conns.length = nconnects before := by simpa using prun_conns_length {} before
  rw [prun_concat, List.getLast?_concat, pstep, prun_append]
  simp only [prun, pstep]
  rw [prun_conns_stable later (by simp [hk])]
  simp [← hk]

example : (prun {} [.setGlobal .qmark, .connect, .setGlobal .pyformat, .connect, .exec 0, .exec 1]).2 =
    [none, none, none, none, some .qmark, some .pyformat] := by decide +kernel

/-- The value the tokenizer recovered is rendered for DuckDB by doubling quotes, and DuckDB's lexer reads
    exactly that value back — for every NUL-free string. -/
theorem C08_duck_roundtrip (s rest : List Char) (hn : noNul s = true) (h : rest.head? ≠ some '\'') :
    duckLex (duckGen s ++ '\'' :: rest) = some (s, rest) := by
  induction s with
  | nil =>
    cases rest with
    | nil => rfl
    | cons r rs =>
      have : r ≠ '\'' := by simpa using h
      simp [duckGen, duckLex, this]
  | cons c cs ih =>
    have ⟨hc, hcs⟩ : Char.ofNat 0 ≠ c ∧ noNul cs = true := by simpa [noNul, not_or] using hn
    by_cases hq : c = '\''
    · simp [duckGen, hq, duckLex, ih hcs]
    · -- `duckLex` looks one character ahead: name the head of the (non-empty) tail
      obtain ⟨p, tl, hg⟩ := List.exists_cons_of_ne_nil (l := duckGen cs ++ '\'' :: rest) (by simp)
      rw [duckGen, if_neg hq, List.cons_append, hg, duckLex, ← hg, ih hcs]
      simp [hc.symm, hq]

/-- As long as no operand-duplicating rewrite has a placeholder beneath it, the executed SQL has as many
    placeholders as the statement as written: DuckDB accepts exactly the right number of values. -/
theorem C08_qmark_count_partial (e : QExpr) (h : e.dupFree = true) (n : Nat) :
    qmarkAccepts e n = (e.phs == n) := by
  have : e.phsRendered = e.phs := by
    induction e with
    | ph => rfl
    | const => rfl
    | app a b iha ihb =>
      simp only [QExpr.dupFree, Bool.and_eq_true] at h
      simp [QExpr.phsRendered, QExpr.phs, iha h.1, ihb h.2]
    | dup a ih =>
      simp only [QExpr.dupFree, Bool.and_eq_true, beq_iff_eq] at h
      simp [QExpr.phsRendered, QExpr.phs, ih h.2, h.1]
  simp [qmarkAccepts, this]

/-- the envelope of `C08_qmark_count_partial` admits a duplicating rewrite whose operand holds no placeholder -/
example : (QExpr.app (.dup .const) (.app .ph .ph)).dupFree = true := by decide

/-- a statement that is not exploded (one engine statement carrying all `k` placeholders) accepts exactly `k` values -/
theorem C08_qmark_unexploded (k n : Nat) : explodeAccepts [k] n = (k == n) := by simp [explodeAccepts]

/-- known finding C08/qmark-merge: a MERGE with three placeholders (ON condition, UPDATE SET, INSERT VALUES) is executed
    as statements holding 1, 2, 1 and 0 of them, each with all three values: none is accepted -/
theorem finding_C08_qmark_merge : explodeAccepts [1, 2, 1, 0] 3 = false ∧ ([1, 2, 1, 0] : List Nat).all (· ≤ 3) = true := by decide

/-- **qmark ints**: every NUMBER(38,0) value bound through qmark reaches DuckDB exactly (after repair `5c8660f`) -/
theorem C08_qmark_int_exact (i : Int) (h : inNumber38 i) : qmarkBindInt i = .exact := by
  unfold qmarkBindInt
  split
  · rfl
  · exact if_pos h

/-- regression witness of C08/qmark-int-beyond-uint64: the pinned code bound a Python int ≥ 2^64 as a DOUBLE -/
theorem C08_old_qmark_int_beyond_uint64 :
    qmarkBindIntOld (10 ^ 20 + 1) = .double ∧ qmarkBindInt (10 ^ 20 + 1) = .exact := by decide

/-- every supported value is delivered, stage by stage: the tokenizer, DuckDB's lexer, the qmark placeholder count, qmark integers,
    floats written as decimal literals (the last stated for the one value of `finding_C08_float_literal_inexact`) -/
def C08_Full : Prop :=
  (∀ v : Val, lex v.lit = lex v.specLit) ∧
  (∀ s : List Char, duckLex (duckGen s ++ ['\'']) = some (s, [])) ∧
  (∀ e : QExpr, ∀ n, qmarkAccepts e n = (e.phs == n)) ∧
  (∀ i : Int, inNumber38 i → qmarkBindInt i = .exact) ∧
  (duckDecToDouble 9662473009120293 10).toBits = (966247.3009120293 : Float).toBits

/-- `float('inf')` / `nan` are rendered by `repr` as the bare words `inf` / `nan`: identifiers, not
    values (known finding C08/inf-nan). -/
theorem finding_C08_inf_nan :
    lex (Val.special "inf".toList).lit = some ("inf".toList.map .chr) ∧
    lex (Val.special "inf".toList).specLit = some (.str "inf".toList :: "::FLOAT".toList.map .chr) := by
  string_lits; decide +kernel

/-- a NUL character inside a string literal is rejected by DuckDB's lexer (known finding C08/nul) -/
theorem finding_C08_nul : duckLex (duckGen [Char.ofNat 0] ++ ['\'']) = none := by decide

/-- `ARRAY_SIZE(?)` is executed with two placeholders (known finding C08/qmark-duplicated) -/
theorem finding_C08_qmark_duplicated : qmarkAccepts (.dup .ph) 1 = false ∧ (QExpr.dup .ph).phs = 1 := by decide

/-- a float written as a decimal literal and read into a FLOAT column by DuckDB (DECIMAL, then a division
    in double arithmetic) is not always the float that was bound (known finding C08/float-literal-inexact):
    966247.3009120293 arrives as 966247.3009120292 -/
theorem finding_C08_float_literal_inexact :
    (duckDecToDouble 9662473009120293 10).toBits = 4696547213207217209 ∧
    (966247.3009120293 : Float).toBits = 4696547213207217210 := by decide +kernel

theorem C08_full_false : ¬ C08_Full := by
  intro h
  have := h.2.2.2.2
  have w := finding_C08_float_literal_inexact
  rw [w.1, w.2] at this
  revert this; decide

end Fs.C08
