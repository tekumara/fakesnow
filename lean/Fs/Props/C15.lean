import Fs.Proofs.Vars
import Fs.Proofs.Params
import Fs.Proofs.Split
import Fs.Proofs.StrLit
/-!
# C15 — session variables substitute exactly, per connection

`Fs.Vars.Impl.inline` models the **repaired** `Variables.inline_variables` (fix-B `91ee0e3`: one `re.sub` over
`(?<!\$)\$(\w+)` with a callback), `oldInline` the pinned code (kept for the regression witnesses), `Env`/`wstep` the
per-connection dict and SET/UNSET.
`harness/props/c15.py` ties them to the real code on every run.
-/
namespace Fs.C15
open Fs.Vars

/-- **Exactness**: for every dict and every text, the repaired code returns exactly the text in which
    each reference (`$` not preceded by `$`, then the longest run of word characters) is replaced by the value of
    that name, and nothing else is changed; values are not scanned; the first undefined reference is the error. -/
theorem C15_exact (env : Env) (t : List Char) : Impl.inline env t = Spec.inline env t :=
  inlineGo_eq env (.copy false) t

/-- **Text that is not a reference is never rewritten**: splitting a text into references and other
    characters loses nothing, so only the `ref` tokens of `Spec.inline` can differ from the input. -/
theorem C15_text_untouched (t : List Char) : render (tokenize (.copy false) t) = t := by
  simpa [St.pendingText] using render_tokenize (.copy false) t

/-- a text without any reference comes back unchanged, whatever variables are set -/
theorem C15_no_reference (env : Env) (t : List Char) (h : hasRef false t = false) : Impl.inline env t = .ok t :=
  inlineGo_noref env false t h

/-- **A reference means its own full name — never a prefix of it**: `$w` followed by a non-word character
    is resolved by looking up exactly `upper w` (so `$var10` never goes through `var1`), in any letter case; the value
    is inserted as it is (a `$x` or `\1` inside it is not touched) and the rest of the text is substituted
    independently. -/
theorem C15_reference (env : Env) (c : Char) (w post : List Char) (hc : isWord c = true)
    (hw : ∀ d ∈ w, isWord d = true) (hpost : ∀ d, post.head? = some d → isWord d = false) :
    Impl.inline env ('$' :: c :: w ++ post) =
      match env.get (upper (c :: w)) with
      | some v => (Impl.inline env post).app v
      | none => .undefined (upper (c :: w)) := by
  simp only [Impl.inline, inlineGo_eq]
  rw [tokenize_ref c w post hc hw hpost]
  simp only [substAll]
  cases env.get (upper (c :: w)) <;> rfl

example : Impl.inline [("V1".toList, "'A'".toList), ("V10".toList, "'$v1\\1'".toList)] "select $v10, $V1;".toList
    = .ok "select '$v1\\1', 'A';".toList := by string_lits; decide +kernel

/-- a dollar-quoted string whose body starts with `$name` (`$$$rate …$$`) holds no reference: each `$` of `$$$` has a `$`
    next to it; and a statement may hold any number of references — all of them are substituted -/
example : Impl.inline [("RATE".toList, "5".toList)] "select $$$rate per unit$$, $rate".toList
    = .ok "select $$$rate per unit$$, 5".toList ∧
    Impl.inline [("A".toList, "1".toList)] "$a,$a,$a,$a,$a,$a,$a,$a,$a,$a,$A".toList = .ok "1,1,1,1,1,1,1,1,1,1,1".toList := by
  string_lits; decide +kernel

/-- **Undefined variable**: if every reference before `$w` is defined and `w` is not, the error names `$W`
    (upper-cased) — and by `C15_no_execution` nothing is executed.  Stated on the reference tokens of a text: `C15_exact` says the
    code computes `substAll` of `tokenize`. -/
theorem C15_undefined (env : Env) (pre : List Tok) (w : List Char) (post : List Tok)
    (hpre : ∀ n, Tok.ref n ∈ pre → env.get (upper n) ≠ none) (hw : env.get (upper w) = none) :
    substAll env (pre ++ .ref w :: post) = .undefined (upper w) := by
  induction pre with
  | nil => simp [substAll, hw]
  | cons p ps ih =>
    have ih' := ih (fun n hn => hpre n (by simp [hn]))
    cases p with
    | txt c => simp [substAll, ih', Res.app]
    | ref n =>
      obtain ⟨v, hg⟩ := Option.ne_none_iff_exists'.mp (hpre n (by simp))
      simp [substAll, hg, ih', Res.app]

/-- a statement whose inlining fails changes no dict and reaches no later phase: `use` returns the error and
    the world is the same -/
theorem C15_no_execution (w : World) (i : Nat) (t : List Char) : (wstep w (.use i t)).1 = w := rfl

/-- **A `$word` inside a bound value is never a variable reference**: for every dict, every template of `%`-free
    text / `%%` / `%s` whose own text references no variable, and every list of bound values — whatever `$name`s
    (defined or not) they contain — the text executed is the template with the values inserted verbatim: the
    variable phase has run before the values arrive and never sees them. -/
theorem C15_bound_values_not_inlined (env : Env) (ps : List Fs.Params.Piece) (hw : ∀ p ∈ ps, p.wf)
    (hr : hasRef false (Fs.Params.render ps) = false) (vs : List (List Char)) (hne : vs ≠ []) :
    execBound env (Fs.Params.render ps) (.seq vs) = some (Fs.Params.substSeq ps vs, false) := by
  have he : (Fs.Params.Args.seq vs).isEmpty = false := by simpa [Fs.Params.Args.isEmpty] using hne
  rw [execBound, Fs.Params.phases, inlineOpt, C15_no_reference env _ hr, Option.map_some,
    Fs.Params.rewrite_clientSide rfl _ he, Fs.Params.fmt, Fs.Params.Args.initial, Fs.Params.fmtGo_seq ps hw vs]

example : execBound [("USD".toList, "5".toList)] "select %s".toList (.seq ["'costs $USD'".toList]) =
    some (.ok "select 'costs $USD'".toList, false) := by string_lits; decide +kernel

/-- with references in the command the two phases compose: first the variables, then the values -/
theorem C15_bound_phases (env : Env) (cmd : List Char) (a : Fs.Params.Args) :
    execBound env cmd a = (inlineOpt env cmd).map fun c => Fs.Params.rewrite .pyformat c a := rfl

/-- known finding C15/percent-in-value-with-params: a variable value containing `%` is pasted into the text that
    `%` then formats — `set p = '50%'` makes `execute("select $p, %s", (1,))` fail inside the formatting -/
theorem finding_C15_percent_in_value_with_params :
    execBound [("P".toList, "'50%'".toList)] "select $p, %s".toList (.seq [['1']]) = some (.unsupported, false) ∧
    execBound [("P".toList, "'a%sb'".toList)] "select $p, %s".toList (.seq [['1']]) = some (.err, false) := by
  string_lits; decide +kernel

/-- after `SET n = v`, `n` stands for `v`; every other name keeps its meaning (in particular names of which
    `n` is a prefix, or which are prefixes of `n`) -/
theorem C15_set (e : Env) (n v m : List Char) :
    (e.set n v).get m = if m = n then some v else e.get m := Env.get_set e n v m

/-- after `UNSET n`, `n` is undefined and every other name keeps its meaning -/
theorem C15_unset (e : Env) (hd : e.nodup) (n m : List Char) :
    (e.unset n).get m = if m = n then none else e.get m := Env.get_unset e hd n m

/-- every dict reachable by SET/UNSET from the empty one has unique keys (hypothesis of `C15_unset`) -/
theorem C15_nodup_invariant (ops : List (Bool × List Char × List Char)) :
    Env.nodup (ops.foldl (fun (e : Env) o => if o.1 then Env.set e o.2.1 o.2.2 else Env.unset e o.2.1) ([] : Env)) := by
  refine List.foldlRecOn (motive := Env.nodup) ops _ trivial fun e he o _ => ?_
  split
  · exact Env.nodup_set e _ _ he
  · exact Env.nodup_unset e _ he

/-- **Per connection**: a SET / UNSET / statement on connection `j` leaves the dict of every other
    connection `i` as it was (so what `$name` means on `i` is unchanged), for every world -/
theorem C15_scope (w : World) (o : Op) (i : Nat)
    (hj : match o with | .set j _ _ => j ≠ i | .unset j _ => j ≠ i | .use _ _ => True) :
    (wstep w o).1.env i = w.env i := by
  cases o with
  | set j n v => exact World.env_set_ne w hj _
  | unset j n =>
    rw [wstep]
    split
    · rfl
    · exact World.env_set_ne w hj _
  | use j t => rfl

/-- and on its own connection a SET is visible in the dict the next statement is inlined with (whatever cursor runs it) -/
theorem C15_set_visible (w : World) (i : Nat) (hi : i < w.length) (n v : List Char) :
    ((wstep w (.set i n v)).1.env i).get n = some v := by
  rw [wstep, World.env_set_self w hi, Env.get_set, if_pos rfl]

/-- **No memo, no sharing**: what a statement is inlined to is a function of its own connection's dict and its
    text — nothing else (no cache keyed by the text, no other connection's dict). -/
theorem C15_use_own_dict (w : World) (i : Nat) (t : List Char) :
    (wstep w (.use i t)).2 = .text (Impl.inline (w.env i) t) := rfl

/-- the byte-identical text on two connections, one right after the other: each sees its own variables (or its own
    undefined-variable error) -/
theorem C15_same_text_two_connections (w : World) (i j : Nat) (t : List Char) :
    (wrun w [.use i t, .use j t]).2 = [.text (Impl.inline (w.env i) t), .text (Impl.inline (w.env j) t)] := rfl

/-- a SET that references its own variable sees the SET before it: the rows `SET total = $total + 5`, `… + 7` of an `executemany`
    (one `execute` per row) after `SET total = 0`; `(0 + 5)` is the form SET stores a compound value in -/
example :
    let w1 := (wstep [[("TOTAL".toList, "0".toList)]] (.set 0 "TOTAL".toList "(0 + 5)".toList)).1
    (wrun w1 [.use 0 "SET total = $total + 7".toList]).2 = [.text (.ok "SET total = (0 + 5) + 7".toList)] := by
  string_lits; decide +kernel

/-- **An undefined reference raises even in a statement a nop pattern matches** (`call proc($nope)` with
    `nop_regexes=["^call "]`): inlining comes before the nop decision (`Fs.Split.executePhased` with the variable
    phase as preparation). -/
theorem C15_undefined_not_nopped {W R P} (env : Env) (pats : Option (List P)) (m : P → List Char → Bool) (ok : R)
    (exec : W → List Char → W × Except (List Char) R) (w : W) (cmd : List Char) (n : List Char)
    (h : Impl.inline env cmd = .undefined n) :
    Fs.Split.executePhased (fun c => match Impl.inline env c with | .ok t => .ok t | .undefined x => .error x)
      pats m ok exec w cmd = (w, .error n) :=
  Fs.Split.executePhased_error _ pats m ok exec w (by rw [h])

/-- **`cursor.describe` is a use-site like any other**: it executes `DESCRIBE <command>`, and inlining that text
    is inlining the command — the same substitutions, the same undefined-variable error. -/
theorem C15_describe_same_references (env : Env) (cmd : List Char) :
    Impl.inline env ("DESCRIBE ".toList ++ cmd) = (Impl.inline env cmd).app "DESCRIBE ".toList := by
  string_lits
  exact inlineGo_prefix env _ _ cmd (by decide) false

/-- regression witness (the pinned code, repaired in fix-B 91ee0e3): `$var10` was rewritten through `var1` -/
theorem C15_old_prefix :
    oldInline [("VAR1".toList, "'A'".toList), ("VAR10".toList, "'B'".toList)] "select $var10".toList
      = .ok "select 'A'0".toList ∧
    Spec.inline [("VAR1".toList, "'A'".toList), ("VAR10".toList, "'B'".toList)] "select $var10".toList
      = .ok "select 'B'".toList := by string_lits; decide +kernel

/-- regression witness: substituted values were scanned again by the later substitutions and by the undefined-variable check -/
theorem C15_old_rescan :
    oldInline [("A".toList, "'$b'".toList), ("B".toList, "2".toList)] "select $a".toList = .ok "select '2'".toList ∧
    oldInline [("A".toList, "'$5'".toList)] "select $a".toList = .undefined "5".toList ∧
    Spec.inline [("A".toList, "'$5'".toList)] "select $a".toList = .ok "select '$5'".toList := by
  string_lits; decide +kernel

/-- The property says "text that is not a variable reference is never rewritten": a `$word` inside a string
    literal, `$$` string, quoted identifier or comment is not a reference.  Full statement: a text with no
    reference *between tokens* comes back unchanged. -/
def C15_Full : Prop := ∀ (env : Env) (t : List Char), refInCode t = false → Impl.inline env t = .ok t

/-- known finding C15/dollar-in-literal-or-comment: the substitution is purely textual -/
theorem finding_C15_dollar_in_literal :
    refInCode "select 'costs $5'".toList = false ∧
    Impl.inline [] "select 'costs $5'".toList = .undefined "5".toList ∧
    Impl.inline [("S".toList, "'x'".toList)] "select '$s' -- $s".toList = .ok "select ''x'' -- 'x'".toList := by
  string_lits; decide +kernel

theorem C15_full_false : ¬ C15_Full := fun h =>
  have f := finding_C15_dollar_in_literal
  nomatch (h [] _ f.1).symm.trans f.2.1

/-- the envelope: no `$word` inside a literal / identifier / comment either -/
theorem C15_partial (env : Env) (t : List Char) (hc : refInCode t = false) (hl : refInLiteral t = false) :
    Impl.inline env t = .ok t := by
  apply inlineGo_noref
  rw [← refAt_or .top false t, ← refInCode, ← refInLiteral, hc, hl, Bool.or_self]

example : refInCode "select 'a;b', 1 -- x".toList = false ∧ refInLiteral "select 'a;b', 1 -- x".toList = false := by
  string_lits; decide +kernel

end Fs.C15
