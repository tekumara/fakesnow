import Fs.Proofs.Http
import Fs.Proofs.StrLit
/-!
# C17 — the HTTP server answers exactly like the in-process fake

The statements, derived from the lemmas of `Fs/Proofs/Http.lean`; everything is about `Fs/Model/Http.lean`, the model of
`arrow.py`/`server.py` and of the connector's Arrow decoding, tied to the real stack by
`harness/props/c17.py` on every run.  Reference behaviour ("spec") is what the in-process fake connection
returns for the same statement.
-/
namespace Fs.C17
open Fs.Http

/-- **Every timestamp survives the wire**: for *every* integer microsecond count (so every int64 value,
    every one of the 10^6 sub-second fractions, negative epochs included) the struct the server builds is
    decoded by the connector to the same instant; a TIMESTAMP_TZ value comes back aware with offset 0 (UTC),
    a TIMESTAMP_NTZ value naive.  In particular the int32 cast never raises (no HTTP 500). -/
theorem C17_ts_roundtrip (hasTz : Bool) (us : Int) :
    (encodeTs hasTz us).map decodeTs = some (us, if hasTz then some 0 else none) := by
  rw [encodeTs_eq, Option.map_some, decodeTs]
  dsimp only
  rw [Int.mul_tdiv_cancel _ (by decide), Int.ediv_mul_add_emod]
  cases hasTz <;> rfl

/-- the struct fields are what Snowflake's layout requires: epoch = floor(us / 10^6) (floor, not truncation,
    so pre-1970 values keep a non-negative fraction), fraction = whole microseconds in nanoseconds within
    [0, 10^9), epoch within int64 whenever `us` is, timezone field 1440 (= UTC) exactly for TIMESTAMP_TZ. -/
theorem C17_ts_wire_ranges (hasTz : Bool) (us : Int) (h : -9223372036854775808 ≤ us ∧ us ≤ 9223372036854775807) :
    ∃ w, encodeTs hasTz us = some w ∧ w.epoch = us / 1000000 ∧ w.fraction = (us % 1000000) * 1000 ∧
      0 ≤ w.fraction ∧ w.fraction < 1000000000 ∧ w.fraction % 1000 = 0 ∧
      -9223372036854775808 ≤ w.epoch ∧ w.epoch ≤ 9223372036854775807 ∧
      w.tz = (if hasTz then some 1440 else none) :=
  have ⟨h0, h1⟩ := fractionOf_eq us ▸ fractionOf_range us
  ⟨_, encodeTs_eq hasTz us, rfl, rfl, h0, h1, Int.mul_emod_left _ _,
    Int.le_ediv_of_mul_le (by decide) (Int.le_trans (by decide) h.1),
    Int.ediv_le_of_le_mul (by decide) (Int.le_trans h.2 (by decide)), rfl⟩

/-- floor division, not truncation -/
example : encodeTs false (-1) = some { epoch := -1, fraction := 999999000, tz := none } := by decide
example : (encodeTs true (-62135596800000000 + 65)).map decodeTs = some (-62135596800000000 + 65, some 0) := by decide

/-- **Regression witness for the repaired defect `C17/fraction-float`**: the fraction as the code computed it
    before the `fix:` commit — `subsecond * 1e9` in IEEE doubles — is not an integer for 65 µs (it is
    65000.00000000001), so the safe cast to int32 raised and the server answered HTTP 500; 64 µs is exact.
    (Kernel evaluation of binary64 arithmetic; no axiom beyond the standard ones.) -/
theorem C17_float_fraction_inexact : floatFractionExact 65 = false ∧ floatFractionExact 64 = true := by
  constructor <;> decide +kernel

/-- **TIME**: every time of day with microsecond precision is decoded to the same (h, m, s, µs). -/
theorem C17_time_roundtrip (t : Nat) (h : t < 86400000000) :
    timeToMicros (decodeTime (encodeTime t)) = t ∧
    (decodeTime (encodeTime t)).1 < 24 ∧ (decodeTime (encodeTime t)).2.1 < 60 ∧
    (decodeTime (encodeTime t)).2.2.1 < 60 ∧ (decodeTime (encodeTime t)).2.2.2 < 1000000 := by
  rw [decodeTime_encodeTime]
  refine ⟨?_, Nat.div_lt_of_lt_mul (Nat.div_lt_of_lt_mul h), Nat.div_lt_of_lt_mul (Nat.mod_lt _ (by decide)),
    Nat.mod_lt _ (by decide), Nat.mod_lt _ (by decide)⟩
  unfold timeToMicros
  dsimp only
  rw [hms_digits, Nat.div_add_mod']

example : decodeTime (encodeTime 86399999999) = (23, 59, 59, 999999) := by decide

/-- **NULLs stay NULL, values stay values**: a timestamp column with NULLs anywhere is decoded to exactly
    what the in-process cursor returns — for every column content. -/
theorem C17_null_roundtrip (hasTz : Bool) (xs : List (Option Int)) :
    (encodeCol true hasTz xs).map decodeCol = some (specCol hasTz xs) := by
  induction xs with
  | nil => rfl
  | cons x xs ih =>
    obtain ⟨ss, hss, hd⟩ := Option.map_eq_some_iff.mp ih
    cases x with
    | none =>
      rw [encodeCol, hss]
      exact congrArg (fun l => some (none :: l)) hd
    | some us =>
      obtain ⟨w, hw, hdw⟩ := Option.map_eq_some_iff.mp (C17_ts_roundtrip hasTz us)
      rw [encodeCol, hw, hss]
      show some (some (decodeTs w) :: decodeCol ss) = _
      rw [hdw, hd]
      rfl

/-- **Regression witness for the repaired defect `C17/null-timestamp`**: without the mask (the code before the
    `fix:` commit) a NULL timestamp reached the client as 1970-01-01 00:00:00. -/
theorem C17_nomask_loses_null :
    (encodeCol false false [none]).map decodeCol = some [some (0, none)] ∧
    specCol false [none] = [none] := by decide

/-- the arrow field metadata carries a DECIMAL column's declared precision and scale unchanged (the
    `precision or 38` / `scale or 0` defaults only replace absent values: a declared precision is ≥ 1 and
    scale 0 `or 0` is 0) -/
theorem C17_decimal_meta (p s : Nat) (hp : 1 ≤ p) : arrowMeta (.decimal p s) = (p, s, 0) := by
  match p, hp with
  | p + 1, _ => cases s <;> rfl

/-- the column types on which `C17_pytype_partial` claims the same Python type: everything but DECIMAL(p,0), BINARY and
    the types `duckdb_to_sf_type` does not know -/
def TyInEnv (t : DuckTy) : Prop := isFixedScale0 t = false ∧ t ≠ .blob ∧ t ≠ .other
instance (t : DuckTy) : Decidable (TyInEnv t) := by unfold TyInEnv; infer_instance

/-- **Same Python type over HTTP as in-process**, for every column type of the table except the three recorded
    regions: DECIMAL(p,0) (`int` over HTTP — what the Snowflake connector does — vs `Decimal` in-process),
    BINARY (`bytearray` vs `bytes`), and types missing from `duckdb_to_sf_type` (HTTP 500).  The third exclusion is
    not used by the proof: at `.other` both sides are `none` in the model — HTTP 500 on one side, a type the model does not
    describe on the other — which is an artefact of the model, not an agreement. -/
theorem C17_pytype_partial (t : DuckTy) (h : TyInEnv t) : httpPy t = inprocPy t := by
  obtain ⟨h0, hb, _⟩ := h
  cases t with
  | blob => exact absurd rfl hb
  | decimal p s =>
    rw [httpPy_decimal, if_neg]
    · rfl
    · rintro rfl; cases h0
  | _ => rfl

example : TyInEnv (.decimal 38 10) ∧ TyInEnv .timestamptz ∧ TyInEnv .bigint := by decide

/-- finding `C17/fixed-scale0-int-vs-decimal` -/
theorem finding_C17_fixed_scale0 (p : Nat) :
    httpPy (.decimal p 0) = some .int ∧ inprocPy (.decimal p 0) = some .decimal := ⟨rfl, rfl⟩

/-- finding `C17/binary-bytearray-vs-bytes` -/
theorem finding_C17_binary : httpPy .blob = some .bytearray ∧ inprocPy .blob = some .bytes := ⟨rfl, rfl⟩

/-- part of finding `C17/http500-undescribable-rows`: a column type outside the table has no rowtype -/
theorem finding_C17_type_unmapped : httpPy .other = none := rfl

/-- the full statement: for every outcome of `execute`, the client over HTTP observes what the in-process
    client observes (error triple, or row count, rowcount and description availability) -/
def C17_Full : Prop := ∀ e : Exec, implObs e = specObs e

/-- `C17_Full` is false, here at `.otherExc`; the `finding_C17_*` theorems below show one outcome in each of the four
    regions of `findingOf` -/
theorem C17_full_false : ¬ C17_Full := fun h => nomatch h .otherExc

/-- **In the envelope** — the statement raised a Snowflake `ProgrammingError`, or succeeded with a describable
    result of at most 1 000 000 rows — the HTTP client sees exactly the in-process outcome: same (errno, sqlstate,
    message), or same number of rows, same `rowcount` (incl. 0 and > 1), description available. -/
theorem C17_response_partial (e : Exec) (h : execInEnv e = true) : implObs e = specObs e :=
  (implObs_eq_specObs_iff e).mpr h

example : execInEnv (.progErr 2003 "42S02" "m") = true ∧ execInEnv (.ok true 0 0) = true ∧
    execInEnv (.ok true 3 3) = true ∧ execInEnv (.ok true 1000000 1000000) = true := by decide

/-- **Any result of up to 1 000 000 rows is one record batch**, so `to_ipc` never refuses it; one row more is two
    batches (finding `C17/http500-multi-batch`, exact threshold). -/
theorem C17_single_batch (n : Nat) : batches n ≤ 1 ↔ n ≤ 1000000 := batches_le_one n

/-- the classifier is exact: outside the envelope a finding key is assigned, inside none, and outside the
    outcomes really differ (so no finding region hides an agreeing case) -/
theorem C17_response_classified (e : Exec) :
    (execInEnv e = true ↔ findingOf e = "-") ∧ (execInEnv e = false → implObs e ≠ specObs e) :=
  ⟨(findingOf_eq_dash_iff e).symm, fun h => mt (implObs_eq_specObs_iff e).mp (ne_true_of_eq_false h)⟩

/-- finding `C17/http500-multi-batch`: a describable result of 1 000 001 rows is answered with HTTP 500 -/
theorem finding_C17_http500_multi_batch (rc : Nat) :
    implObs (.ok true 1000001 rc) = .http500 ∧ specObs (.ok true 1000001 rc) = .ok 1000001 rc .cols :=
  ⟨by rw [implObs_ok_true]; rfl, rfl⟩

/-- finding `C17/http500-untranslated-exception` -/
theorem finding_C17_http500_untranslated : implObs .otherExc = .http500 ∧ specObs .otherExc = .raw := ⟨rfl, rfl⟩
/-- finding `C17/description-unavailable-empty` (a row-less result that cannot be described: an empty result with a
    LIST-typed column) -/
theorem finding_C17_description_empty (rc : Nat) :
    implObs (.ok false 0 rc) = .ok 0 rc .empty ∧ specObs (.ok false 0 rc) = .ok 0 rc .raises := ⟨rfl, rfl⟩
/-- finding `C17/http500-undescribable-rows` (LIST-typed result columns with rows) -/
theorem finding_C17_http500_rows (n rc : Nat) :
    implObs (.ok false (n + 1) rc) = .http500 ∧ specObs (.ok false (n + 1) rc) = .ok (n + 1) rc .raises := ⟨rfl, rfl⟩

/-- **Token slice**: `auth[17:-1]` recovers every token from the header the connector sends. -/
theorem C17_token_slice (t : Token) : slice17 (authHeader t) = t := by
  unfold slice17 authHeader
  string_lits
  -- `drop 17` consumes the 17 characters of `Snowflake Token="` by computation
  exact (List.dropLast_concat : (t ++ [_]).dropLast = t)

/-- **401 and nothing touched**: a query whose Authorization header is absent or empty is refused with 390103,
    one whose token is not a live session with 390104 — for *every* request body `q`, well-formed or not (`.malformed`:
    empty, not gzip, not JSON, no `sqlText`): the token is checked before the body is looked at; in both cases the whole
    server state — every session's context and variables, all data — is unchanged. -/
theorem C17_auth_refused (s : Srv) (q : Q) :
    step s (.query none q) = (s, .unauthorized 390103) ∧
    step s (.query (some []) q) = (s, .unauthorized 390103) ∧
    ∀ c cs, lookup s.sessions (slice17 (c :: cs)) = none →
      step s (.query (some (c :: cs)) q) = (s, .unauthorized 390104) := by
  refine ⟨rfl, rfl, ?_⟩
  intro c cs h
  simp only [step, h]

/-- **A statement only touches its own session**: whatever is executed through the token `slice17 a`, every other
    token's session (instance, current schema, variables) is exactly what it was. -/
theorem C17_session_local (s : Srv) (a : List Char) (q : Q) (t' : Token) (h : t' ≠ slice17 a) :
    lookup (step s (.query (some a) q)).1.sessions t' = lookup s.sessions t' := by
  cases a with
  | nil => rfl
  | cons c cs => rw [lookup_step_query, if_neg h]

/-- a login leaves every other token's session untouched and all data untouched -/
theorem C17_login_local (s : Srv) (tok : Token) (b : Backing) (sch : Option Nat) (t' : Token) (h : t' ≠ tok) :
    lookup (step s (.login tok b sch)).1.sessions t' = lookup s.sessions t' ∧
    (step s (.login tok b sch)).1.data = s.data := by
  cases b <;> exact ⟨(lookup_assign ..).trans (if_neg h), rfl⟩

/-- **A login gets exactly the context it asked for**: the new session's current schema is the one named in the login
    request — and *no* current schema when none was named (the server invents no default such as PUBLIC) —, it has no
    variables and no open transaction, exactly like `FakeSnow.connect(database, schema)` in-process. -/
theorem C17_login_context (s : Srv) (tok : Token) (b : Backing) (sch : Option Nat) :
    ∃ se, lookup (step s (.login tok b sch)).1.sessions tok = some se ∧
      se.schema = sch ∧ se.vars = [] ∧ se.tx = none ∧ se.backing = b := by
  cases b <;> exact ⟨_, (lookup_assign ..).trans (if_pos rfl), rfl, rfl, rfl, rfl⟩

/-- **Data of other instances is untouched**: a statement run by a session of instance `i` changes no row of
    any instance `j ≠ i` — an `:isolated:`/path-backed login cannot disturb the shared data (that it cannot see it either
    is how `runQ` answers `.getAll`: the rows of the session's own instance only). -/
theorem C17_data_frame (s : Srv) (a : List Char) (q : Q) (se : Sess) (j : Nat)
    (hl : lookup s.sessions (slice17 a) = some se) (hj : j ≠ se.inst) :
    (step s (.query (some a) q)).1.data.filter (·.1 == j) = s.data.filter (·.1 == j) := by
  cases a with
  | nil => rfl
  | cons c cs =>
    simp only [step, hl]
    exact runQ_data_frame se s.data q j hj

/-- the session that ran a statement is afterwards what `runQ` made of it (`c :: cs`: an empty header is refused before
    the lookup, even when `[]` is a live token) -/
theorem C17_own_session (s : Srv) (c : Char) (cs : List Char) (q : Q) (se : Sess)
    (hl : lookup s.sessions (slice17 (c :: cs)) = some se) :
    lookup (step s (.query (some (c :: cs)) q)).1.sessions (slice17 (c :: cs)) = some (runQ se s.data q).1 := by
  rw [lookup_step_query, if_pos rfl, hl]
  rfl

/-- **A failing statement leaves the transaction state alone**: when the statement sent through a live token raises a
    Snowflake ProgrammingError, the HTTP request answers the error and changes *nothing* — every session (the caller's
    open transaction and its pending writes included) and all data are exactly what they were, which is what the
    in-process `execute` does.  (The server must not roll back, commit or reset anything on the error path.) -/
theorem C17_failed_statement_touches_nothing (s : Srv) (c : Char) (cs : List Char) (se : Sess)
    (hl : lookup s.sessions (slice17 (c :: cs)) = some se) :
    (step s (.query (some (c :: cs)) .fail)).2 = .error ∧
    (step s (.query (some (c :: cs)) .fail)).1.data = s.data ∧
    ∀ t', lookup (step s (.query (some (c :: cs)) .fail)).1.sessions t' = lookup s.sessions t' := by
  refine ⟨by simp only [step, hl, runQ], by simp only [step, hl, runQ], fun t' => ?_⟩
  rw [lookup_step_query]
  split
  · exact Option.map_id'   -- `runQ se d .fail` returns `se` itself
  · rfl

/-- **Inside an explicit transaction only COMMIT publishes**: any other statement of the session — writes, reads, failing
    statements, ROLLBACK — leaves the committed data (what every other session sees) unchanged; a failing statement keeps
    the pending writes, ROLLBACK discards them, COMMIT appends exactly them. -/
theorem C17_tx_only_commit_publishes (se : Sess) (d : List (Nat × Int)) (w : List Int) (h : se.tx = some w) :
    (∀ q, q ≠ .commit → (runQ se d q).2.1 = d) ∧
    (runQ se d .fail).1.tx = some w ∧ (runQ se d .rollback).1.tx = none ∧
    (runQ se d .commit).2.1 = d ++ w.map (fun v => (se.inst, v)) ∧ (runQ se d .commit).1.tx = none := by
  obtain ⟨_, _, _, _, _⟩ := se
  subst h
  refine ⟨fun q hq => ?_, rfl, rfl, rfl, rfl⟩
  cases q with
  | commit => exact absurd rfl hq
  | _ => rfl

example :
    (run {} [.login ['a'] .shared (some 1), .login ['b'] .shared none,
             .query (some (authHeader ['a'])) .begin, .query (some (authHeader ['a'])) (.put 1),
             .query (some (authHeader ['a'])) .fail, .query (some (authHeader ['a'])) (.put 2),
             .query (some (authHeader ['a'])) .getAll, .query (some (authHeader ['b'])) .getAll,
             .query (some (authHeader ['a'])) .commit, .query (some (authHeader ['b'])) .getAll,
             .query (some (authHeader ['a'])) .begin, .query (some (authHeader ['a'])) (.put 3),
             .query (some (authHeader ['a'])) .fail, .query (some (authHeader ['a'])) .rollback,
             .query (some (authHeader ['b'])) .getAll]).2
    = [.token ['a'], .token ['b'], .status, .status, .error, .status, .rows [1, 2], .rows [], .status, .rows [1, 2],
       .status, .status, .error, .status, .rows [1, 2]] := by
  unfold authHeader
  string_lits
  decide +kernel

/-- **Who shares data**: after *any* sequence of login/query requests (any tokens, forged ones included), two
    live sessions under different tokens use the same instance iff both logged in without asking for an
    isolated or path-backed instance. -/
theorem C17_sharing (reqs : List Req) :
    let s := (run {} reqs).1
    ∀ t1 t2 se1 se2, lookup s.sessions t1 = some se1 → lookup s.sessions t2 = some se2 → t1 ≠ t2 →
      (se1.inst = se2.inst ↔ se1.backing = .shared ∧ se2.backing = .shared) := by
  intro s t1 t2 se1 se2 h1 h2 hne
  exact (inv_run {} reqs inv_init).inst_eq_iff (congrArg (Option.map _) h1) (congrArg (Option.map _) h2) hne

example :
    (run {} [.login ['a'] .shared (some 1), .login ['b'] .shared (some 1), .login ['c'] .isolated none,
             .query (some (authHeader ['a'])) (.put 7), .query (some (authHeader ['c'])) (.put 9),
             .query (some (authHeader ['x'])) (.put 1), .query none .getAll,
             .query (some (authHeader ['a'])) (.setVar 1 5), .query (some (authHeader ['b'])) (.getVar 1),
             .query (some (authHeader ['b'])) .getAll, .query (some (authHeader ['c'])) .getAll]).2
    = [.token ['a'], .token ['b'], .token ['c'], .status, .status, .unauthorized 390104, .unauthorized 390103,
       .status, .val none, .rows [7], .rows [9]] := by
  unfold authHeader
  string_lits
  decide +kernel

end Fs.C17
