import Fs.Proofs.Split
import Fs.Model.Vars
import Fs.Proofs.StrLit
/-!
# C16 — execute_string equals one-by-one execution; nop_regexes only no-op matches   (partial)

What is proved is fakesnow's own part: the literal re-render round trip (sqlglot's Snowflake generator escaping ∘ its
tokenizer = identity, for all strings), the statement splitter, stop-at-first-failure / one cursor each, and the nop decision logic.  That sqlglot's parse→generate round
trip preserves the meaning of a whole *statement* is NOT proved; it is covered only by the twin-instance comparison of
`harness/props/c16.py`.
-/
namespace Fs.C16
open Fs.Lex Fs.Gen Fs.Split

/-- **Literal round trip**: for every string `s` — any unicode, quotes, `;`, `--`, `/*`, backslashes, control
    characters — the tokenizer reads the generator's rendering of `s` back as exactly `s`. -/
theorem C16_literal_roundtrip (s rest : List Char) (h : rest.head? ≠ some '\'') :
    lexFrom (.str []) (sfGen s ++ '\'' :: rest) = (lex rest).map (.str s :: ·) :=
  lexFrom_str_close (run_str_sfGen [] s) rest h

/-- **A re-rendered literal is one token** wherever it stands between tokens: semicolons, quotes, comment
    markers and backslashes inside it never become statement structure. -/
theorem C16_literal_structure (pre post s : List Char) (tp : List Tok) (st : St)
    (hpre : run .top pre = (tp, st)) (hb : st.boundary = true) (hpost : post.head? ≠ some '\'') :
    lex (pre ++ sfLit s ++ post) = (lex pre).bind fun a => (lex post).map fun b => a ++ .str s :: b :=
  lex_quoted hpre hb (run_str_sfGen [] s) post hpost

example : lex ("insert into t values (".toList ++ sfLit "a;b'--/*\\".toList ++ ");".toList) =
    some ("insertintotvalues(".toList.map .chr ++ [.str "a;b'--/*\\".toList, .chr ')', .semi]) := by
  string_lits; decide +kernel

/-- **Comments are not statements and not part of them**: a block comment (with no `*` in its body) at the start of a
    text yields no token, so the tokens of `/* … */ rest` are the tokens of `rest`.  Comments after and between
    statements: the example below; the splitter drops token-free parts only (`C16_split`). -/
theorem C16_block_comment_no_tokens (body rest : List Char) (h : '*' ∉ body) :
    lex ('/' :: '*' :: body ++ '*' :: '/' :: rest) = lex rest := by
  have hb : run .top ('/' :: '*' :: body ++ ['*', '/']) = ([], .top) := by
    simp [run_cons, step, stepTop, run_block_body body h]
  simpa [lex] using lexFrom_append_of_run hb rest

example : stmtCount "/* a */ update t set v = 1 /* b */; -- x\n ; /* only */ ; select 1 -- t\n".toList = some 2 := by
  string_lits; decide +kernel

/-- a byte order mark, zero-width and other unusual code points inside a literal are data like any other character -/
example : lex (sfLit ['a', Char.ofNat 0xFEFF, 'b', Char.ofNat 0x200B, Char.ofNat 0x2028]) =
    some [.str ['a', Char.ofNat 0xFEFF, 'b', Char.ofNat 0x200B, Char.ofNat 0x2028]] := by decide +kernel

/-- known finding C16/dollar-string-rerender-exposes-reference: `execute_string` re-renders a `$$…$$` string as `'…'`
    BEFORE the statement passes the variable phase.  In `$$$usd$$` no `$` is a reference (each has a `$` next to it), in
    the re-rendered `'$usd'` there is one: through `execute_string` the value becomes `'5'`, executed on its own it stays `$usd`. -/
theorem finding_C16_dollar_string_rerender :
    Fs.Vars.Impl.inline [("USD".toList, "5".toList)] "select $$$usd$$".toList = .ok "select $$$usd$$".toList ∧
    Fs.Vars.Impl.inline [("USD".toList, "5".toList)] ("select ".toList ++ sfLit "$usd".toList) = .ok "select '5'".toList := by
  string_lits; decide +kernel

/-- **`;` between tokens separates**: if `s1` leaves the tokenizer between tokens, the tokens of `s1 ; s2` are the
    tokens of `s1`, the separator, the tokens of `s2`. -/
theorem C16_semicolon_separates (s1 s2 : List Char) (t1 : List Tok) (st : St)
    (h1 : run .top s1 = (t1, st)) (hb : st.boundary = true) :
    lex (s1 ++ ';' :: s2) = (lex s2).map fun b => t1 ++ pending st ++ .semi :: b := by
  rw [lex, lexFrom_append_of_run h1, lexFrom_cons_of_step (step_boundary_semi st hb)]
  simp [lex, Option.map_map, Function.comp_def]

/-- **Splitter**: joining any parts that contain no separator with `;` and splitting again gives back exactly
    the non-empty parts, in order — empty and comment-only statements (no tokens) are ignored. -/
theorem C16_split (parts : List (List Tok)) (h : ∀ p ∈ parts, semiFree p) :
    split (joinSemi parts) = parts.filter (fun q => !q.isEmpty) := by
  cases parts with
  | nil => rfl
  | cons p ps => simpa [split] using splitGo_join [] p ps h

example : stmtCount "select 1; -- only comment\n ; ; /* c */ ; select ';' -- tail\n;".toList = some 2 := by
  string_lits; decide +kernel

/-- **Stops at the first failing statement with the earlier ones applied**: if the statements `a` all succeed
    (reaching world `w1` with results `ra`) and `s` fails in `w1`, then whatever follows is never executed: the world is
    the one `s` left, the results are those of `a`, the error is that of `s`. -/
theorem C16_stops_at_first_failure {W S R E} (exec : W → S → W × Except E R) (w : W) (a : List S) (s : S)
    (rest : List S) (w1 : W) (ra : List R) (ha : runAll exec w a = (w1, ra, none)) (w2 : W) (e : E)
    (hs : exec w1 s = (w2, .error e)) :
    runAll exec w (a ++ s :: rest) = (w2, ra, some e) := by
  simp [runAll_append, ha, runAll, hs]

/-- **Inside an open transaction**: `begin; insert …; insert …; <failing statement>; …` leaves the transaction OPEN
    with every earlier insert applied in it (visible to the same connection, to be committed or rolled back by the
    caller) — exactly what one-by-one execution leaves; `execute_string` does not roll back on failure. -/
theorem C16_open_transaction_kept (c ns : List Nat) (rest : List TxS) :
    runAll txExec ⟨c, none⟩ (.begin :: ns.map .ins ++ .fail :: rest) =
      (⟨c, some (c ++ ns)⟩, () :: ns.map (fun _ => ()), some ()) := by
  have ha : runAll txExec ⟨c, none⟩ (.begin :: ns.map .ins) = (⟨c, some (c ++ ns)⟩, () :: ns.map (fun _ => ()), none) := by
    simp [runAll, txExec, runAll_tx_inserts]
  exact C16_stops_at_first_failure txExec ⟨c, none⟩ (.begin :: ns.map .ins) .fail rest _ _ ha _ () rfl

example : (runAll txExec ⟨[1], none⟩ [.begin, .ins 2, .fail, .ins 3]).1 = ⟨[1], some [1, 2]⟩ ∧
    (runAll txExec ⟨[1], none⟩ [.begin, .ins 2, .fail, .ins 3, .rollback]).1 = ⟨[1], some [1, 2]⟩ := by decide +kernel

/-- **One cursor each**: when no statement fails there are exactly as many results as statements. -/
theorem C16_one_cursor_each {W S R E} (exec : W → S → W × Except E R) (w : W) (ss : List S)
    (h : (runAll exec w ss).2.2 = none) : (runAll exec w ss).2.1.length = ss.length := by
  fun_induction runAll exec w ss with
  | case1 => rfl
  | case2 w s ss w' r _ ih => simp [ih h]
  | case3 w s ss w' e _ => cases h

/-- the full statement: `execute_string` behaves like executing the statements one by one (stated over `Nat` for worlds, statements
    and results, which is general enough to be false and lets the refutation be evaluated) -/
def C16_Full : Prop :=
  ∀ (parses : Nat → Bool) (exec : Nat → Nat → Nat × Except Unit Nat) (w : Nat) (ss : List Nat),
    execString parses () exec w ss = oneByOne parses () exec w ss

/-- **Partial**: `execute_string` behaves like one-by-one execution whenever every statement of the text parses. -/
theorem C16_exec_string_partial {W S R E} (parses : S → Bool) (pe : E) (exec : W → S → W × Except E R) (w : W)
    (ss : List S) (h : ss.all parses = true) : execString parses pe exec w ss = oneByOne parses pe exec w ss := by
  rw [execString, if_pos h, oneByOne]
  exact runAll_congr w ss fun w s hs => by simp [List.all_eq_true.mp h s hs]

/-- the hypothesis of `C16_exec_string_partial` on a three-statement text with a parser that accepts everything -/
example : ([1, 2, 3] : List Nat).all (fun _ => true) = true := by decide

/-- known finding C16/unparseable-statement-executes-nothing: the whole text is parsed before anything runs, so an
    unparseable *later* statement keeps the earlier ones from being applied (world stays 0 instead of 1) -/
theorem finding_C16_unparseable_executes_nothing :
    execString (fun s => s != 9) () (fun w s => (w + s, Except.ok (ε := Unit) s)) 0 [1, 9] = (0, [], some ()) ∧
    oneByOne (fun s => s != 9) () (fun w s => (w + s, Except.ok (ε := Unit) s)) 0 [1, 9] = (1, [1], some ()) := by
  decide

theorem C16_full_false : ¬ C16_Full := fun h =>
  have f := finding_C16_unparseable_executes_nothing
  nomatch f.1.symm.trans ((h _ _ _ _).trans f.2)

/-- **A matching statement returns the success status and has no effect** (the world is untouched, whatever
    the statement is — it is not even parsed). -/
theorem C16_nop_matches {W R E P C} (pats : Option (List P)) (m : P → C → Bool) (ok : R) (exec : W → C → W × Except E R)
    (w : W) (cmd : C) (h : nopDecision pats m cmd = true) : executeNop pats m ok exec w cmd = (w, .ok ok) := by
  simp [executeNop, h]

/-- **No effect, in every history**: a matching statement can be deleted from any history of statements
    (COMMENT ON, ALTER … SET COMMENT, DML, … before and after it) without changing the final world — whatever the
    world consists of (rows, catalog, comment side tables). -/
theorem C16_nop_history {W R E P C} (pats : Option (List P)) (m : P → C → Bool) (ok : R) (exec : W → C → W × Except E R)
    (w : W) (pre post : List C) (cmd : C) (h : nopDecision pats m cmd = true) :
    runCmds pats m ok exec w (pre ++ cmd :: post) = runCmds pats m ok exec w (pre ++ post) := by
  induction pre generalizing w with
  | nil => simp [runCmds, executeNop, h]
  | cons c cs ih => simp [runCmds, ih]

/-- **Phase order, 1**: a statement whose preparation fails (undefined session variable, bad `%` arguments) raises
    that error whatever the nop patterns are — even a pattern that matches everything does not turn it into the success
    no-op; and nothing is executed. -/
theorem C16_prepare_error_before_nop {W R E P C T} (prep : C → Except E T) (pats : Option (List P)) (m : P → T → Bool)
    (ok : R) (exec : W → T → W × Except E R) (w : W) (cmd : C) (e : E) (h : prep cmd = .error e) :
    executePhased prep pats m ok exec w cmd = (w, .error e) :=
  executePhased_error prep pats m ok exec w h

/-- **Phase order, 2**: the nop decision is taken on the PREPARED text (variables inlined, parameters substituted),
    not on the command as written: a statement is no-op'ed iff its prepared text matches. -/
theorem C16_nop_sees_prepared_text {W R E P C T} (prep : C → Except E T) (pats : Option (List P)) (m : P → T → Bool)
    (ok : R) (exec : W → T → W × Except E R) (w : W) (cmd : C) (t : T) (h : prep cmd = .ok t) :
    executePhased prep pats m ok exec w cmd = if nopDecision pats m t then (w, .ok ok) else exec w t := by
  simp [executePhased, h, executeNop]

/-- **Every other statement behaves exactly as without the option**. -/
theorem C16_nop_no_match {W R E P C} (pats : Option (List P)) (m : P → C → Bool) (ok : R) (exec : W → C → W × Except E R)
    (w : W) (cmd : C) (h : nopDecision pats m cmd = false) :
    executeNop pats m ok exec w cmd = executeNop (none : Option (List P)) m ok exec w cmd := by
  have h2 : nopDecision (none : Option (List P)) m cmd = false := rfl
  simp only [executeNop, h, h2]

/-- the decision is exactly "some configured pattern matches the command"; no patterns (None or []) never match -/
theorem C16_nop_decision {P C} (pats : Option (List P)) (m : P → C → Bool) (cmd : C) :
    nopDecision pats m cmd = true ↔ ∃ ps, pats = some ps ∧ ∃ p ∈ ps, m p cmd = true := by
  cases pats with
  | none => simp [nopDecision]
  | some ps => simp [nopDecision, List.any_eq_true]

end Fs.C16
