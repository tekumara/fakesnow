import Fs.Proofs.JsonConstruct
import Fs.Proofs.JsonEval
import Fs.Proofs.JsonPrec
import Fs.Proofs.StrLit
/-!
# C11 — VARIANT/OBJECT/ARRAY values behave as JSON documents

Everything is about
  * `pipeline`  — the JSON rewrites of `cursor._transform` in their order, with sqlglot's traversal rule,
  * `evalDuck`  — DuckDB's evaluation of the rewritten tree (engine model, trusted base),
  * `evalSpec` / `get` — "what navigating the same document in Python gives".
`harness/props/c11.py` ties `evalDuck ∘ pipeline` to the real fakesnow + DuckDB on every run.

Domain.  The unconditional statement over ALL expression trees (`C11_Full`) is false on the pinned tree
(`C11_full_false`; the `finding_*` theorems are witnesses of recorded findings).  The `_partial` theorems are over the source
shapes the property names (`Ctx`: uses of an extraction chain of any depth/nesting, bare / cast / UPPER / LOWER /
TRIM / ARRAY_SIZE / IS NULL, inside comparison, boolean, arithmetic and concatenation operators and parentheses
of any depth), for ALL documents, under the decidable envelope `Ctx.ok` that excludes exactly the finding regions.
-/
namespace Fs.C11
open Fs.Json

/-- the concatenated path of an extraction chain -/
def flat : Nav → Path
  | .col => []
  | .path n p => flat n ++ p

theorem evalSpec_nav (doc : Env) (n : Nav) (p : Path) :
    evalSpec doc (Nav.path n p).toE = ofOpt (Fs.Json.get doc.doc (flat n ++ p)) := by
  induction n generalizing p with
  | col => rfl
  | path n q ih => rw [Nav.toE, evalSpec, ih]; exact specNav_append (.json doc.doc) (flat n ++ q) p

/-- **Path access = document navigation, at any depth** (`v:a.b[0]`, `GET_PATH`, and any nesting of them):
    the rewritten expression evaluates in DuckDB to exactly what navigating the document gives; a JSON `null`
    reached by the path is Python's `None`. -/
theorem C11_nav (doc : Env) (n : Nav) (p : Path) :
    evalDuck doc (pipeline (Nav.path n p).toE) = ofOpt (Fs.Json.get doc.doc (flat n ++ p)) := by
  rw [show (Nav.path n p).toE = (Use.bare (.nav (.path n p))).toE from rfl, use_correct doc _ rfl]
  exact evalSpec_nav doc n p

/-- **Subscripts** `x['k']`, `x[i]` on top of a chain navigate one more step — for keys that the f-string
    `$.{key}` renders faithfully (`BIdx.ok`; the others are `finding_bracket_key_unescaped`). -/
theorem C11_nav_subscript_partial (doc : Env) (n : Nav) (i : BIdx) (h : i.ok = true) :
    evalDuck doc (pipeline (.bracket n.toE i)) = specNav (evalSpec doc n.toE) [i.seg] := by
  rw [show E.bracket n.toE i = (Use.bare (.brk n i)).toE from rfl,
    use_correct doc _ (show Use.ok doc (.bare (.brk n i)) = true from h)]; rfl

/-- the text fakesnow writes for a subscript is read by DuckDB's path parser as that one step -/
theorem C11_subscript_path_text (i : BIdx) (h : i.ok = true) : parsePath (bracketPath i) = some [i.seg] :=
  parsePath_bracket i h

/-- a QUOTED subscript made only of digits is a KEY (`v['2024']` → `$.2024` → key "2024"); the integer subscript
    `v[2024]` is a position — the two stay distinct all the way to DuckDB's path parser -/
theorem C11_subscript_digit_key :
    parsePath (bracketPath (.str "2024".toList)) = some [.key "2024".toList] ∧
    parsePath (bracketPath (.num "2024".toList)) = some [.idx 2024] ∧
    (BIdx.str "0".toList).seg = .key "0".toList ∧ (BIdx.num "0".toList).seg = .idx 0 := by
  string_lits; decide +kernel

/-- **Missing paths and non-matching kinds give NULL** -/
theorem C11_missing (doc : Env) (n : Nav) (p : Path) (h : Fs.Json.get doc.doc (flat n ++ p) = none) :
    evalDuck doc (pipeline (Nav.path n p).toE) = .null := by
  rw [C11_nav, h]; rfl

/-- what "non-matching kind" means: a key applies only to objects, an index only to arrays -/
theorem C11_wrong_kind (j : Json) :
    (∀ k, (∀ o, j ≠ .obj o) → step j (.key k) = none) ∧ (∀ i, (∀ l, j ≠ .arr l) → step j (.idx i) = none) := by
  constructor
  · intro k h; cases j <;> first | rfl | exact absurd rfl (h _)
  · intro i h; cases j <;> first | rfl | exact absurd rfl (h _)

/-- **Extracted strings lose their JSON quotes exactly when converted to text**: for a `:`/GET_PATH extraction
    that reaches the string `s`, the bare value is the JSON string (its text is `"s"` with quotes and escapes),
    while a cast to text, UPPER, LOWER and TRIM see the raw characters. -/
theorem C11_unquote (doc : Env) (n : Nav) (p : Path) (s : List Char) (h : Fs.Json.get doc.doc (flat n ++ p) = some (.str s)) :
    let x := (Nav.path n p).toE
    evalDuck doc (pipeline x) = .json (.str s) ∧
    evalDuck doc (pipeline (.cast x .text)) = .text s ∧
    evalDuck doc (pipeline (.upper x)) = .text (s.map upChar) ∧
    evalDuck doc (pipeline (.lower x)) = .text (s.map loChar) ∧
    evalDuck doc (pipeline (.trim x)) = .text (trimSpaces s) := by
  have hs : evalSpec doc (Nav.path n p).toE = .json (.str s) := by rw [evalSpec_nav, h]; rfl
  -- each conversion is a `Use` of the chain inside the envelope, and the specified value follows from `hs`
  exact ⟨by rw [C11_nav, h]; rfl,
    (use_correct doc (.cast (.nav (.path n p)) .text) (by rw [Use.ok, Acc.toE, hs]; rfl)).trans
      (congrArg (specCast .text) hs),
    (use_correct doc (.upper (.nav (.path n p))) rfl).trans (congrArg (fun v => mapText (TFun.app .upper) (specText v)) hs),
    (use_correct doc (.lower (.nav (.path n p))) rfl).trans (congrArg (fun v => mapText (TFun.app .lower) (specText v)) hs),
    (use_correct doc (.trim (.nav (.path n p))) rfl).trans (congrArg (fun v => mapText (TFun.app .trim) (specText v)) hs)⟩

/-- … and the JSON text of the bare string is the quoted, escaped form -/
theorem C11_bare_keeps_quotes (s : List Char) : render (.str s) = '"' :: (s.flatMap escChar ++ ['"']) := rfl

/-- the full statement: every expression tree the specification gives a meaning to evaluates to that meaning -/
def C11_Full : Prop := ∀ (doc : Env) (e : E), evalSpec doc e ≠ .unsup → evalDuck doc (pipeline e) = evalSpec doc e

/-- **All of it, inside comparisons, boolean and arithmetic expressions**: for every document and every
    expression of the named shapes inside the envelope, the rewritten tree evaluates to the specified value. -/
theorem C11_partial (doc : Env) (c : Ctx) (h : c.ok doc = true) :
    evalDuck doc (pipeline c.toE) = evalSpec doc c.toE := by
  induction c with
  | use u => exact use_correct doc u h
  | lit l => simp only [Ctx.toE, pipeline_lit]; rfl
  | bin o a b iha ihb =>
    simp only [Ctx.ok, Bool.and_eq_true, Bool.not_eq_true'] at h
    obtain ⟨⟨ha, hb⟩, hm⟩ := h
    simp only [Ctx.toE, pipeline_bin, evalDuck, evalSpec, iha ha, ihb hb]
    exact evalBin_congr hm
  | not a ih => simp only [Ctx.toE, pipeline_not, evalDuck, evalSpec, ih h]
  | paren a ih => simp only [Ctx.toE, pipeline_paren, evalDuck, evalSpec, ih h]

/-- **A cast-of-path nested inside another cast-of-path** — `PARSE_JSON(v:payload::varchar):k::t`, the
    double-encoded payload (a document whose string value is itself JSON text): for ALL documents, ALL JSON text parsers
    `pj`, all chains and paths, the inner `::varchar` is rewritten to `->>` as well (the outer rewrite edits the tree in
    place, so sqlglot's traversal continues below it), the payload is parsed from its UNQUOTED text and the outer
    path/cast sees the inner document.  One level of nesting has a theorem; deeper nestings are sampled in the tie. -/
theorem C11_nested_partial (doc : Env) (n : Nav) (p q : Path) (t : Ty)
    (hc : castOK t (evalSpec doc (.jx (nestedInner n p) (.path q))) = true) :
    evalDuck doc (pipeline (.cast (.jx (nestedInner n p) (.path q)) t)) = evalSpec doc (.cast (.jx (nestedInner n p) (.path q)) t) ∧
    evalDuck doc (pipeline (.jx (nestedInner n p) (.path q))) = evalSpec doc (.jx (nestedInner n p) (.path q)) := by
  constructor
  · rw [pipeline_nested_cast]
    simp only [evalDuck, evalSpec, eval_nestedInnerOut, arrow2, arrow_path] at hc ⊢
    exact duckCast_conv (b := true) hc rfl
  · rw [pipeline_nested_bare]
    simp only [evalDuck, evalSpec, eval_nestedInnerOut, arrow_path]

/-- `{"payload": "{\"k\":\"x\"}"}`, `PARSE_JSON(v:payload::varchar):k::varchar` = `x`;
    had the inner cast kept the JSON quotes (the in-place edit replaced by a copy) the payload would parse to a JSON
    STRING and the result would be NULL -/
example :
    let inner : Json := .obj (.cons "k".toList (.str "x".toList) .nil)
    let env : Env := { doc := .obj (.cons "payload".toList (.str (render inner)) .nil),
                       pj := fun s => if s = render inner then some (some inner) else if s = render (.str (render inner)) then some (some (.str (render inner))) else none }
    let e : E := .cast (.jx (nestedInner .col [.key "payload".toList]) (.path [.key "k".toList])) .text
    evalDuck env (pipeline e) = .text "x".toList ∧ evalSpec env e = .text "x".toList ∧
    -- the tree a non-descending rewrite would leave: inner `->` instead of `->>`
    evalDuck env (.cast (.paren (.jxs (.parseJson (.cast (.paren (.jx .col (.path [.key "payload".toList]))) .text)) (.path [.key "k".toList]))) .text) = .null := by
  string_lits; decide +kernel

/-- **… regardless of operator precedence**: if the Snowflake text was unambiguous (`SrcOK`), the DuckDB text
    sqlglot prints for the rewritten tree — no parentheses but `Paren` nodes and the generator's own wrap — parses
    back, under DuckDB 1.0's operator table (`->` below OR, `->>` at `||`), to the tree that was evaluated. -/
theorem C11_precedence (c : Ctx) (h : SrcOK c.toE = true) : PrecOK (pipeline c.toE) = true := by
  induction c with
  | use u => exact precOK_use u
  | lit l => simp only [Ctx.toE, pipeline_lit]; rfl
  | bin o a b iha ihb =>
    simp only [Ctx.toE, PrecOKg, Bool.and_eq_true] at h
    obtain ⟨⟨⟨ha, hb⟩, hl⟩, hr⟩ := h
    simp only [Ctx.toE, pipeline_bin, PrecOKg, Bool.and_eq_true, iha ha, ihb hb, true_and]
    rw [level_ctx a true true, level_ctx b true true]
    exact ⟨hl, hr⟩
  | not a ih =>
    simp only [Ctx.toE, PrecOKg, Bool.and_eq_true] at h
    simp only [Ctx.toE, pipeline_not, PrecOKg, Bool.and_eq_true, ih h.1, true_and]
    rw [level_ctx a false false]; exact h.2
  | paren a ih =>
    simp only [Ctx.toE, PrecOKg] at h
    simp only [Ctx.toE, pipeline_paren, PrecOKg, ih h]

/-- `string_lits` rewrites the goal only and does not reach the strings inside `docW`, `pB`, `pS` below: the theorems over these are
    closed by `decide +kernel` alone -/
private def s (x : String) : List Char := x.toList
private def docW : Json :=
  .obj (.cons (s "a") (.obj (.cons (s "b") (.arr (.cons (.num 1) (.cons (.str (s "x")) (.cons .null (.cons (.bool true) .nil))))) .nil))
  (.cons (s "s") (.str (s " q\"u")) (.cons (s "e") (.arr .nil) (.cons (s "a.b") (.num 7) .nil))))
private def envW : Env := { doc := docW }
private def pB (i : Nat) : E := .jx .col (.path [.key (s "a"), .key (s "b"), .idx i])
private def pS : E := .jx .col (.path [.key (s "s")])

/-- `NOT v:a.b[3] OR (v:a.b[0]::int + 1 = 2 AND upper(v:s) = ' Q"U')` lies in the envelope -/
example :
    let c : Ctx := .bin .or (.not (.use (.bare (.nav (.path .col [.key (s "a"), .key (s "b"), .idx 3])))))
      (.bin .and (.bin .eq (.bin .add (.use (.cast (.nav (.path .col [.key (s "a"), .key (s "b"), .idx 0])) .int)) (.lit (.int 1))) (.lit (.int 2)))
                 (.bin .eq (.use (.upper (.nav (.path .col [.key (s "s")])))) (.lit (.str (s " Q\"U")))))
    c.ok envW = true ∧ SrcOK c.toE = true ∧ evalSpec envW c.toE = .bool true := by decide +kernel

/-- `json_extract_precedence` is needed: without it `NOT v:a.b[3]` prints as `NOT V -> '$.a.b[3]'`, which DuckDB
    reads as `(NOT V) -> …` (sqlglot's own wrap only covers Binary parents) -/
theorem C11_precedence_needed : PrecOK (pipelineNoParen (.not (pB 3))) = false ∧ PrecOK (pipeline (.not (pB 3))) = true := by
  decide +kernel

/-- **Order constraint** (cursor.py:170): with `trim_cast_varchar` AFTER `json_extract_cast_as_varchar`, TRIM of an
    extracted string keeps its JSON quotes; in the real order it does not. -/
theorem C11_order :
    evalDuck envW (pipelineTrimLate (.trim pS)) = .text (s "\" q\\\"u\"") ∧
    evalDuck envW (pipeline (.trim pS)) = .text (s "q\"u") ∧ evalSpec envW (.trim pS) = .text (s "q\"u") := by
  decide +kernel

/-- **`f.value` of a LATERAL FLATTEN converted to text** (`f.value::varchar`, `TRIM(f.value)`): for every element, the
    string loses its JSON quotes — TRIM because `trim_cast_varchar` runs first and inserts the cast that
    `flatten_value_cast_as_varchar` then turns into `F.VALUE ->> '$'` -/
theorem C11_flatten_value_text (doc : Env) :
    evalDuck doc (pipelineAll (.cast .fval .text)) = evalSpec doc (.cast .fval .text) ∧
    evalDuck doc (pipelineAll (.trim .fval)) = evalSpec doc (.trim .fval) := by
  obtain ⟨d, pj⟩ := doc
  cases d <;> exact ⟨rfl, rfl⟩

/-- **Order constraint for `flatten_value_cast_as_varchar`** (undocumented in cursor.py): it must run AFTER
    `trim_cast_varchar`; ahead of it, TRIM(f.value) of the element `" pad "` keeps the JSON spelling -/
theorem C11_order_flatten_value :
    let env : Env := { doc := .str " pad ".toList }
    evalDuck env (pipelineFlattenEarly (.trim .fval)) = .text "\" pad \"".toList ∧
    evalDuck env (pipelineAll (.trim .fval)) = .text "pad".toList ∧ evalSpec env (.trim .fval) = .text "pad".toList := by
  string_lits; decide +kernel

/-- C11/array-size-empty — ARRAY_SIZE of an empty array is NULL, not 0 (the CASE trick) -/
theorem finding_array_size_empty :
    evalDuck envW (pipeline (.arraySize (.jx .col (.path [.key (s "e")])))) = .null ∧
    evalSpec envW (.arraySize (.jx .col (.path [.key (s "e")]))) = .int 0 := by decide +kernel

/-- C11/chained-brackets — `v['a']['b']`: the inner subscript is not rewritten (the replaced outer node is not
    descended into) and DuckDB rejects it -/
theorem finding_chained_brackets :
    evalDuck envW (pipeline (.bracket (.bracket .col (.str (s "a"))) (.str (s "b")))) = .err .binder ∧
    (∃ j, evalSpec envW (.bracket (.bracket .col (.str (s "a"))) (.str (s "b"))) = .json j) := by
  exact ⟨by decide +kernel, _, rfl⟩

/-- C11/string-eq-literal — a bare extracted string compared with a text literal: DuckDB casts the literal to JSON -/
theorem finding_string_eq_literal :
    evalDuck envW (pipeline (.bin .eq (pB 1) (.lit (.str (s "x"))))) = .err .conv ∧
    evalSpec envW (.bin .eq (pB 1) (.lit (.str (s "x")))) = .bool true := by decide +kernel

/-- C11/text-of-non-path-variant-keeps-quotes — a string reached by a subscript (or the VARIANT itself) keeps its
    quotes under a cast to text / UPPER / LOWER / TRIM: the unquoting rewrites only recognise `:`-paths -/
theorem finding_text_of_non_path :
    evalDuck envW (pipeline (.cast (.bracket .col (.str (s "s"))) .text)) = .text (s "\" q\\\"u\"") ∧
    evalSpec envW (.cast (.bracket .col (.str (s "s"))) .text) = .text (s " q\"u") := by decide +kernel

/-- the same finding on `f.value` of a FLATTEN (outside `Ctx`; `pipelineAll`): UPPER / LOWER directly on it keep the quotes -/
theorem finding_flatten_value_upper :
    let env : Env := { doc := .str "x".toList }
    evalDuck env (pipelineAll (.upper .fval)) = .text "\"X\"".toList ∧ evalSpec env (.upper .fval) = .text "X".toList := by
  string_lits; decide +kernel

/-- C11/bracket-key-unescaped — `v['a.b']` is sent as `$.a.b` and navigates a → b -/
theorem finding_bracket_key_unescaped :
    parsePath (bracketPath (.str (s "a.b"))) = some [.key (s "a"), .key (s "b")] ∧
    evalDuck envW (pipeline (.bracket .col (.str (s "a.b")))) ≠ evalSpec envW (.bracket .col (.str (s "a.b"))) := by
  decide +kernel

theorem C11_full_false : ¬ C11_Full := fun h => by
  obtain ⟨hd, hs⟩ := finding_array_size_empty
  have e := h envW (.arraySize (.jx .col (.path [.key (s "e")]))) (by rw [hs]; exact Val.noConfusion)
  rw [hd, hs] at e
  cases e

/-- **OBJECT_CONSTRUCT drops NULL-valued pairs** — when every NULL among the arguments is the literal `NULL` and at
    least one pair is left -/
theorem C11_object_construct_partial (ps : Pairs) (h : noHiddenNull ps = true) (hne : objectConstructSpec ps ≠ []) :
    objectConstructDuck ps = .ok (objectConstructSpec ps) := by
  unfold objectConstructDuck
  rw [objectConstruct_partial ps h]
  cases hs : objectConstructSpec ps with
  | nil => exact absurd hs hne
  | cons a l => rfl

example : noHiddenNull [(some (s "a"), .expr (some (.num 1))), (some (s "b"), .litNull), (none, .expr (some (.num 2)))] = true := by decide +kernel

/-- … and the specified result is: no pair with a NULL key or value survives, every other pair does, in order -/
theorem C11_object_construct_drops (ps : Pairs) :
    objectConstructSpec ps = ps.filterMap (fun kv => kv.1.bind fun k => kv.2.val.map fun v => (k, v)) := by
  unfold objectConstructSpec
  congr 1; funext kv; obtain ⟨k, a⟩ := kv
  cases k <;> cases h : a.val <;> simp [h]

/-- OBJECT_CONSTRUCT_KEEP_NULL drops no pair: when no key is NULL the result has as many pairs as the argument list (that a NULL
    value is written as JSON `null` is the definition of `objectConstructKeepNull`, not part of this statement) -/
theorem C11_object_construct_keep_null (ps : Pairs) (h : ps.all (fun kv => kv.1.isSome) = true) :
    (objectConstructKeepNull ps).length = ps.length := by
  induction ps with
  | nil => rfl
  | cons kv ps ih =>
    obtain ⟨k, a⟩ := kv
    have h' := (Bool.and_eq_true _ _).mp h
    cases k with
    | none => cases h'.1
    | some k => exact congrArg (· + 1) (ih h'.2)

/-- C11/object-construct-hidden-null — a value that is NULL but not the literal `NULL` (a missing path, a NULL
    column) is kept as `"k":null` -/
theorem finding_object_construct_hidden_null :
    objectConstructImpl [(some (s "a"), .expr (some (.num 1))), (some (s "b"), .expr none)] = [(s "a", .num 1), (s "b", .null)] ∧
    objectConstructSpec [(some (s "a"), .expr (some (.num 1))), (some (s "b"), .expr none)] = [(s "a", .num 1)] := by decide +kernel

/-- C11/object-construct-empty — `OBJECT_CONSTRUCT()` (or one whose pairs are all dropped) is a ParserException
    instead of `{}` -/
theorem finding_object_construct_empty :
    objectConstructDuck [(some (s "a"), .litNull)] = .error .parser ∧ objectConstructSpec [(some (s "a"), .litNull)] = [] :=
  ⟨rfl, rfl⟩

/-- C11/array-literal-native-list, C11/array-literal-heterogeneous — an array literal is not turned into a JSON
    document: it comes back as a native list, or fails when the items differ in type -/
theorem finding_array_literal :
    arrayLitImpl [.num 1, .num 2] = .native [.num 1, .num 2] ∧ arrayLitImpl [.num 1, .str (s "a")] = .err := by decide +kernel

/-- **FLATTEN yields every element once, in order** (`f.value`; a JSON null element is NULL) -/
theorem C11_flatten (l : JList) :
    ∃ rows, flattenImpl (.json (.arr l)) = .ok rows ∧ rows.length = l.length ∧
      ∀ i, i < l.length → rows[i]? = some (ofOpt (l.get? i)) := by
  exact ⟨_, rfl, by rw [List.length_map, JList.toList_length], JList.toList_get l⟩

/-- `f.value::varchar` gives each element converted to text (strings unquoted), in order -/
theorem C11_flatten_text (l : JList) : flattenTextImpl (.json (.arr l)) = flattenTextSpec (.json (.arr l)) := by
  simp only [flattenTextImpl, flattenImpl, flattenTextSpec, flattenSpec, Except.map, List.map_map]
  congr 1
  apply List.map_congr_left
  intro j _
  cases j <;> rfl

/-- C11/flatten-object — FLATTEN of an object is a ConversionException instead of its values -/
theorem finding_flatten_object :
    flattenImpl (.json (.obj (.cons (s "k") (.num 1) .nil))) = .error .conv ∧
    flattenSpec (.json (.obj (.cons (s "k") (.num 1) .nil))) = .ok [.json (.num 1)] := ⟨rfl, rfl⟩

/-- C11/flatten-outer-ignored — FLATTEN(…, OUTER => TRUE) over an empty/missing array: documented one row with NULL,
    the rewrite ignores the argument and yields no row -/
theorem finding_flatten_outer_ignored :
    flattenImpl (.json (.arr .nil)) = .ok [] ∧ flattenOuterSpec (.json (.arr .nil)) = .ok [.null] := ⟨rfl, rfl⟩

/-- C11/flatten-native-string-list — FLATTEN(ARRAY_CONSTRUCT('a','b')) / FLATTEN(['a','b']) is a ConversionException;
    number lists work -/
theorem finding_flatten_native_string_list :
    flattenNativeListImpl [.str "a".toList] = .error .conv ∧ flattenNativeListImpl [.num 1, .num 2] = .ok [.json (.num 1), .json (.num 2)] :=
  ⟨rfl, rfl⟩

/-- **SPLIT** (one-character separator): the pieces joined by the separator are the string, and no piece
    contains the separator — every piece once, in order -/
theorem C11_split (sep : Char) (str : List Char) :
    [sep].intercalate (splitOn sep str) = str ∧ ∀ p ∈ splitOn sep str, sep ∉ p :=
  ⟨splitOn_join sep str, splitOn_no_sep sep str⟩

end Fs.C11
