import Fs.Spec.Json
import Fs.Proofs.Basic
/-! C06, C10, C11: DuckDB's primitives against the specification's — decimal digits and the integers they spell, the JSON path text
    fakesnow writes and the path DuckDB reads from it, DuckDB's navigation along a path and `get`. -/
namespace Fs.Json

theorem digitVal_digitChar (d : Nat) (h : d < 10) : digitVal (digitChar d) = d := by
  have : ∀ d : Fin 10, digitVal (digitChar d.val) = d.val := by decide
  exact this ⟨d, h⟩

theorem isDigit_digitChar (d : Nat) (h : d < 10) : isDigit (digitChar d) = true := by
  have : ∀ d : Fin 10, isDigit (digitChar d.val) = true := by decide
  exact this ⟨d, h⟩

theorem digitChar_ne_minus (d : Nat) (h : d < 10) : digitChar d ≠ '-' := by
  have : ∀ d : Fin 10, digitChar d.val ≠ '-' := by decide
  exact this ⟨d, h⟩

/-- the step of the fold that `digitsVal` is: `digitsVal ds = ds.foldl dstep 0` by definition -/
def dstep (a : Nat) (c : Char) : Nat := a * 10 + digitVal c

theorem dstep_digit (n : Nat) : dstep (n / 10) (digitChar (n % 10)) = n := by
  rw [dstep, digitVal_digitChar _ (Nat.mod_lt n (by decide)), Nat.div_add_mod']

/-- the digit loop, by invariant.  Read `P n acc` as "`n` is still to be written in front of `acc`": if a round of the loop keeps
    it, the loop (with fuel above `n`, which `natDigits` provides) ends with `P 0` of its result -/
theorem natDigitsAux_ind (P : Nat → List Char → Prop)
    (step : ∀ n acc, P n acc → P (n / 10) (digitChar (n % 10) :: acc))
    {f n : Nat} {acc : List Char} (h : n < f) (hp : P n acc) : P 0 (natDigitsAux f n acc) := by
  induction f generalizing n acc with
  | zero => exact absurd h (Nat.not_lt_zero n)
  | succ f ih =>
    have hp' := step n acc hp
    rw [natDigitsAux]
    split
    · next h0 => rwa [h0] at hp'
    · next h0 =>
      have hn : 0 < n := Nat.pos_of_ne_zero fun e => h0 (by rw [e])
      exact ih (Nat.lt_of_lt_of_le (Nat.div_lt_self hn (by decide)) (Nat.le_of_lt_succ h)) hp'

theorem digitsVal_natDigits (n : Nat) : digitsVal (natDigits n) = n :=
  show (natDigits n).foldl dstep 0 = n from
  natDigitsAux_ind (fun m l => l.foldl dstep m = n) (fun m l h => by rw [List.foldl_cons, dstep_digit]; exact h)
    (Nat.lt_succ_self n) rfl

theorem natDigits_inj {a b : Nat} (h : natDigits a = natDigits b) : a = b := by
  rw [← digitsVal_natDigits a, h, digitsVal_natDigits]

theorem natDigits_all (n : Nat) : (natDigits n).all isDigit = true :=
  natDigitsAux_ind (fun _ l => l.all isDigit = true)
    (fun m _ h => (Bool.and_eq_true _ _).mpr ⟨isDigit_digitChar _ (Nat.mod_lt m (by decide)), h⟩) (Nat.lt_succ_self n) rfl

/-- invariant: once nothing is left to write, something has been written.  For `0` the loop starts with nothing left and nothing
    written, against the invariant: `0` apart. -/
theorem natDigits_ne_nil : ∀ n, natDigits n ≠ []
  | 0 => by decide
  | n + 1 => natDigitsAux_ind (fun m l => m = 0 → l ≠ []) (fun _ _ _ _ => List.cons_ne_nil _ _) (Nat.lt_succ_self _)
      (fun h => nomatch h) rfl

theorem isDigit_ne_minus (c : Char) (h : isDigit c = true) : c ≠ '-' := by
  intro hc; subst hc; revert h; decide

theorem parseInt_digits {ds : List Char} (hne : ds ≠ []) (hall : ds.all isDigit = true) :
    parseInt ds = some (digitsVal ds : Int) := by
  rw [parseInt]
  · simp [hall, hne]
  · -- the equation of `parseInt` for an unsigned text asks that `ds` does not start with `-`
    intro ds' h
    subst h
    exact isDigit_ne_minus _ ((Bool.and_eq_true _ _).mp hall).1 rfl

theorem parseInt_intDigits (n : Int) : parseInt (intDigits n) = some n := by
  cases n with
  | ofNat n => rw [intDigits, parseInt_digits (natDigits_ne_nil n) (natDigits_all n), digitsVal_natDigits]; rfl
  | negSucc n =>
    rw [intDigits, parseInt, natDigits_all, digitsVal_natDigits, List.isEmpty_eq_false_iff.mpr (natDigits_ne_nil _)]
    rfl   -- `-↑(n + 1)` is `Int.negSucc n`

theorem parseSegs_nil (f : Nat) : parseSegs f [] = some [] := by cases f <;> rfl

theorem parsePath_key (k : List Char) (h : simpleKey k = true) :
    parsePath (bracketPath (.str k)) = some [.key k] := by
  simp only [simpleKey, Bool.and_eq_true, Bool.not_eq_true', bne_iff_ne, ne_eq] at h
  obtain ⟨⟨⟨hne, hstar⟩, hall⟩, hq⟩ := h
  cases k with
  | nil => cases hne
  | cons c cs =>
    have hc : c ≠ '"' := by simpa using hq
    have hs : ((c :: cs).isEmpty || (c :: cs) == ['*']) = false := by simpa using hstar
    rw [bracketPath, parsePath, List.length_cons, parseSegs]
    · simp only [takeWhile_all hall, dropWhile_all hall, hs, parseSegs_nil, Option.map_some]; rfl
    · -- the equation of `parseSegs` for a plain key asks that it is not a quoted one
      intro rest heq; exact hc (List.cons.inj heq).1

theorem parsePath_num (ds : List Char) (hne : ds.isEmpty = false) (hall : ds.all isDigit = true) :
    parsePath (bracketPath (.num ds)) = some [.idx (digitsVal ds)] := by
  obtain ⟨ht, hd⟩ := takeWhile_append_stop isDigit ds ']' [] hall (by decide)
  rw [bracketPath, parsePath, List.length_cons, parseSegs]
  simp only [ht, hd, hne, parseSegs_nil, Option.map_some]

theorem parsePath_bracket (i : BIdx) (h : i.ok = true) : parsePath (bracketPath i) = some [i.seg] := by
  cases i with
  | str k => exact parsePath_key k h
  | num ds =>
    simp only [BIdx.ok, Bool.and_eq_true, Bool.not_eq_true'] at h
    exact parsePath_num ds h.1 h.2

theorem navFold_eq_bind_get (p : Path) (o : Option Json) : p.foldl (fun acc s => acc.bind (step · s)) o = o.bind (get · p) := by
  induction p generalizing o with
  | nil => cases o <;> rfl
  | cons s p ih => rw [List.foldl_cons, ih]; cases o <;> rfl

theorem navDuck_eq_get (j : Json) (p : Path) : navDuck j p = get j p := navFold_eq_bind_get p (some j)

theorem arrow_of_parse {pl : PathLit} {p : Path} (h : pl.parse = some p) (v : Val) : arrow v pl = specNav v p := by
  cases v <;> simp only [arrow, specNav, h, navDuck_eq_get]

theorem arrow_path (v : Val) (p : Path) : arrow v (.path p) = specNav v p := arrow_of_parse rfl v

theorem arrow_bracketPath (v : Val) (i : BIdx) (h : i.ok = true) : arrow v (.raw (bracketPath i)) = specNav v [i.seg] :=
  arrow_of_parse (pl := .raw _) (parsePath_bracket i h) v

theorem eval_nav (doc : Env) (n : Nav) : evalDuck doc n.toE = evalSpec doc n.toE := by
  induction n with
  | col => rfl
  | path n p ih => simp only [Nav.toE, evalDuck, evalSpec, ih, arrow_path]

theorem get_append (j : Json) (p q : Path) : get j (p ++ q) = (get j p).bind (get · q) := by
  rw [← navDuck_eq_get, navDuck, List.foldl_append, navFold_eq_bind_get, navFold_eq_bind_get]; rfl

theorem ofOpt_get_null (q : Path) : ofOpt (get .null q) = .null := by
  cases q <;> rfl

theorem specNav_append (v : Val) (p q : Path) : specNav (specNav v p) q = specNav v (p ++ q) := by
  cases v with
  | json j =>
    simp only [specNav, get_append]
    cases get j p with
    | none => rfl
    -- a JSON `null` reached by `p` is NULL, and so is whatever `q` navigates from it
    | some j' => cases j' <;> first | rfl | exact (ofOpt_get_null q).symm
  | _ => rfl

end Fs.Json
