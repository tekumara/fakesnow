import Fs.Model.Connect
/-! For C14.  What `attachDb` / `addSchema` do, on any world, to the existence queries and to what was there; then, rung by rung, the
world the ladder leaves (`Spec.afterDb`, `Spec.afterSchema`) and that the existence queries on it are `Spec.dbAfter` /
`Spec.schemaAfter`; composed in `connect_eq`. -/
namespace Fs.Connect

theorem upperChar_idem (c : Char) : upperChar (upperChar c) = upperChar c := by
  by_cases h : upperChar c = c
  · rw [h, h]
  · -- `c` is one of the 26 keys of the table, and none of their values 'A' … 'Z' is a key
    revert h
    fun_cases upperChar c
    case case27 => exact fun h => absurd rfl h    -- the default row `c => c`
    all_goals exact fun _ => by decide +kernel

theorem upper_idem (n : Name) : upper (upper n) = upper n := by
  simp [upper, upperChar_idem]

theorem upper_getD_map (x : Option Name) : upper ((x.map upper).getD []) = (x.map upper).getD [] := by
  cases x with
  | none => rfl
  | some n => exact upper_idem n

theorem upper_DB (o : Opts) : upper o.DB = o.DB := upper_getD_map o.database

theorem upper_SC (o : Opts) : upper o.SC = o.SC := upper_getD_map o.schema

theorem dbExists_attachDb (w : World) (db db' : Name) (p : Bool) :
    dbExists (attachDb w db p) db' = (dbExists w db' || upper db == db') := by
  simp only [dbExists, attachDb, List.any_append, List.any_cons, List.any_nil, Bool.or_false]

theorem mem_attachDb {w : World} {c : Cat} {db : Name} {p : Bool} (h : c ∈ w.attached) : c ∈ (attachDb w db p).attached :=
  List.mem_append_left _ h

theorem disk_attachDb {w : World} {db : Name} {p : Bool} : w.disk <+: (attachDb w db p).disk := by
  show w.disk <+: if _ then w.disk ++ [(db, [])] else w.disk
  generalize (p && _) = b
  cases b
  · exact List.prefix_refl _
  · exact List.prefix_append _ _

theorem mem_addSchema {w : World} {c : Cat} {db s : Name} (h : c ∈ w.attached) :
    ∃ c' ∈ (addSchema w db s).attached, c'.name = c.name ∧ c'.file = c.file ∧ c.schemas <+: c'.schemas := by
  refine ⟨_, List.mem_map_of_mem h, ?_⟩
  split
  · exact ⟨rfl, rfl, List.prefix_append _ _⟩
  · exact ⟨rfl, rfl, List.prefix_refl _⟩

theorem names_addSchema {w : World} {db s : Name} :
    (addSchema w db s).attached.map (·.name) = w.attached.map (·.name) := by
  simp only [addSchema, List.map_map, Function.comp_def, apply_ite Cat.name, ite_self]

theorem dbExists_congr {w w' : World} (h : w'.attached.map (·.name) = w.attached.map (·.name)) (db : Name) :
    dbExists w' db = dbExists w db := by
  have (w : World) : dbExists w db = (w.attached.map (·.name)).any (upper · == db) := by
    simp only [dbExists, List.any_map, Function.comp_def]
  rw [this, this, h]

theorem schemaExists_dbExists {w : World} {db s : Name} (h : schemaExists w db s = true) : dbExists w db = true := by
  simp only [schemaExists, dbExists, List.any_eq_true, Bool.and_eq_true] at h ⊢
  obtain ⟨c, hc, hh, _⟩ := h
  exact ⟨c, hc, hh⟩

theorem schemaExists_addSchema_self {w : World} {db s : Name} (hs : upper s = s) :
    schemaExists (addSchema w db s) db s = dbExists w db := by
  simp only [schemaExists, dbExists, addSchema, List.any_map, Function.comp_def]
  -- catalog by catalog: one named `db` has got `s` (found, as `upper s = s`); for any other both sides are `false`
  congr 1
  funext c
  cases h : upper c.name == db
  · simp [h]
  · simp [h, catHasSchema, hs]

theorem rung_db (o : Opts) (w : World) : stepDb o w = Spec.afterDb o w := rfl

theorem dbExists_afterDb (o : Opts) (w : World) :
    (truthy o.db && dbExists (Spec.afterDb o w) o.DB) = Spec.dbAfter o w := by
  unfold Spec.afterDb Spec.createsDb Spec.dbAfter
  cases truthy o.db
  · rfl
  · -- when rung 1 attaches `o.DB` the query finds it, since `o.DB` is upper-cased already (`upper_DB`); else the world is `w`
    cases he : dbExists w o.DB <;> cases o.createDb <;> simp [he, dbExists_attachDb, upper_DB]

theorem afterDb_of_not_createDb {o : Opts} (w : World) (h : o.createDb = false) : Spec.afterDb o w = w := by
  simp [Spec.afterDb, Spec.createsDb, h]

theorem mem_afterDb (o : Opts) {w : World} {c : Cat} (h : c ∈ w.attached) : c ∈ (Spec.afterDb o w).attached := by
  unfold Spec.afterDb
  split
  · exact mem_attachDb h
  · exact h

theorem disk_afterDb (o : Opts) (w : World) : w.disk <+: (Spec.afterDb o w).disk := by
  unfold Spec.afterDb
  split
  · exact disk_attachDb
  · exact List.prefix_refl _

/-- the world after rung 2: the `w2` of `Spec.connect` -/
def Spec.afterSchema (o : Opts) (w : World) : World :=
  if Spec.createsSchema o w then addSchema (Spec.afterDb o w) o.DB o.SC else Spec.afterDb o w

theorem afterSchema_of_not_createSchema {o : Opts} (w : World) (h : o.createSchema = false) :
    Spec.afterSchema o w = Spec.afterDb o w := by
  simp [Spec.afterSchema, Spec.createsSchema, h]

/-- the condition is bracketed as `Spec.createsSchema` has it, so that `dbExists_afterDb` rewrites the middle factor in `rung_schema` -/
theorem stepSchema_guarded (o : Opts) (w : World) :
    stepSchema true o w = some (if o.createSchema && (truthy o.db && dbExists w o.DB) && truthy o.sc &&
      !schemaExists w o.DB o.SC then addSchema w o.DB o.SC else w) := by
  unfold stepSchema
  cases dbExists w o.DB
  · simp
  · simp [apply_ite some]

theorem rung_schema (o : Opts) (w : World) :
    stepSchema true o (Spec.afterDb o w) = some (Spec.afterSchema o w) := by
  rw [stepSchema_guarded, dbExists_afterDb]
  rfl

theorem afterSchema_frame (o : Opts) (w : World) :
    (Spec.afterSchema o w).paths = w.paths ∧ (Spec.afterSchema o w).nextConn = w.nextConn := by
  unfold Spec.afterSchema Spec.afterDb
  cases Spec.createsSchema o w <;> cases Spec.createsDb o w <;> exact ⟨rfl, rfl⟩

theorem names_afterSchema (o : Opts) (w : World) :
    (Spec.afterSchema o w).attached.map (·.name) = (Spec.afterDb o w).attached.map (·.name) := by
  unfold Spec.afterSchema
  split
  · exact names_addSchema
  · rfl

theorem dbExists_afterSchema (o : Opts) (w : World) :
    (truthy o.db && dbExists (Spec.afterSchema o w) o.DB) = Spec.dbAfter o w := by
  rw [dbExists_congr (names_afterSchema o w), dbExists_afterDb]

theorem disk_afterSchema (o : Opts) (w : World) : (Spec.afterSchema o w).disk = (Spec.afterDb o w).disk := by
  unfold Spec.afterSchema
  split <;> rfl

theorem mem_afterSchema (o : Opts) {w : World} {c : Cat} (h : c ∈ w.attached) :
    ∃ c' ∈ (Spec.afterSchema o w).attached, c'.name = c.name ∧ c'.file = c.file ∧ c.schemas <+: c'.schemas := by
  unfold Spec.afterSchema
  split
  · exact mem_addSchema (mem_afterDb o h)
  · exact ⟨c, mem_afterDb o h, rfl, rfl, List.prefix_refl _⟩

theorem schemaAfter_eq (o : Opts) (w : World) :
    Spec.schemaAfter o w =
      (Spec.dbAfter o w && truthy o.sc && schemaExists (Spec.afterDb o w) o.DB o.SC || Spec.createsSchema o w) := by
  unfold Spec.schemaAfter Spec.createsSchema
  generalize Spec.dbAfter o w = a, truthy o.sc = s, schemaExists (Spec.afterDb o w) o.DB o.SC = x, o.createSchema = c
  revert a s x c
  decide

theorem dbAfter_of_schemaAfter {o : Opts} {w : World} (h : Spec.schemaAfter o w = true) : Spec.dbAfter o w = true := by
  simp only [Spec.schemaAfter, Bool.and_eq_true] at h
  exact h.1.1

theorem schemaExists_afterSchema (o : Opts) (w : World) :
    (truthy o.db && truthy o.sc && schemaExists (Spec.afterSchema o w) o.DB o.SC) = Spec.schemaAfter o w := by
  have ha := dbExists_afterDb o w
  rw [schemaAfter_eq]
  unfold Spec.afterSchema
  split
  · next hc =>
    -- rung 2 creates the schema: it exists afterwards iff its database does, and `createsSchema` says it does and is named
    rw [hc, Bool.or_true, schemaExists_addSchema_self (upper_SC o), Bool.and_right_comm, ha]
    simp only [Spec.createsSchema, Bool.and_eq_true] at hc
    simp [hc]
  · next hc =>
    -- rung 2 creates nothing; if the query finds the schema the database is there, so `truthy o.db` is `dbAfter o w` by `ha`
    rw [Bool.not_eq_true] at hc
    rw [hc, Bool.or_false]
    cases hX : schemaExists (Spec.afterDb o w) o.DB o.SC
    · simp
    · rw [schemaExists_dbExists hX, Bool.and_true] at ha
      rw [ha]

/-- which path the new cursor gets does not matter to the frame theorems that read the world off this -/
theorem Spec.connect_snd (o : Opts) (w : World) : ∃ p, (Spec.connect o w).2 =
    { Spec.afterSchema o w with paths := w.paths ++ [(w.nextConn, p)], nextConn := w.nextConn + 1 } :=
  ⟨_, by rw [← (afterSchema_frame o w).1]; rfl⟩

theorem rung_context (o : Opts) (w : World) :
    stepContext o (Spec.afterSchema o w) =
      ((Spec.connect o w).2, ⟨o.db, o.sc, Spec.dbAfter o w, Spec.schemaAfter o w, w.nextConn⟩) := by
  unfold stepContext Spec.connect
  rw [(afterSchema_frame o w).2, schemaExists_afterSchema, dbExists_afterSchema]
  cases hs : Spec.schemaAfter o w
  · cases Spec.dbAfter o w <;> rfl
  · rw [dbAfter_of_schemaAfter hs]
    rfl

theorem connect_eq (o : Opts) (w : World) :
    connect o w = if bootstrapFails o w then (.bootstrapError, Spec.afterDb o w) else Spec.connect o w := by
  unfold connect connectWith
  split
  · rfl
  · simp only [rung_db, rung_schema, rung_context]
    rfl

theorem Spec.connect_congr {o o' : Opts} (w : World) (hd : o.db = o'.db) (hs : o.sc = o'.sc)
    (h1 : o.createDb = o'.createDb) (h2 : o.createSchema = o'.createSchema) (h3 : o.dbPath = o'.dbPath) :
    Spec.connect o w = Spec.connect o' w := by
  unfold Spec.connect Spec.schemaAfter Spec.createsSchema Spec.afterDb Spec.createsDb Spec.dbAfter Opts.DB Opts.SC
  rw [hd, hs, h1, h2, h3]

end Fs.Connect
