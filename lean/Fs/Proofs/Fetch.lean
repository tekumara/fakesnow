import Fs.Model.Fetch
/-!
For C05: the code's cursor `run` is simulated by the abstract read position `srun` (`sim_run`), and a run of `srun` without an
execute hands out the result from the old read position to the new one (`srun_prefix`).  What holds of every single answer of
such a run is proved of one step and lifted by `srun_inv`.
-/
namespace Fs.Fetch
variable {α : Type}

/-- the ops that replace or drop the result set: an execute, succeeded or failed -/
def Op.isExec {α} : Op α → Bool | .exec _ => true | .fail => true | _ => false

theorem run_append (c : Cur α) (a b : List (Op α)) :
    run c (a ++ b) = ((run c a).1 ++ (run (run c a).2 b).1, (run (run c a).2 b).2) := by
  induction a generalizing c with
  | nil => rfl
  | cons o os ih => simp only [List.cons_append, run, ih]

theorem srun_append (s : SCur α) (a b : List (Op α)) :
    srun s (a ++ b) = ((srun s a).1 ++ (srun (srun s a).2 b).1, (srun (srun s a).2 b).2) := by
  induction a generalizing s with
  | nil => rfl
  | cons o os ih => simp only [List.cons_append, srun, ih]

theorem srun_length (s : SCur α) (ops : List (Op α)) : (srun s ops).1.length = ops.length := by
  induction ops generalizing s with
  | nil => rfl
  | cons o os ih => simp only [srun, List.length_cons, ih]

/-- `fetchall` asks `fetchmany` for `num_rows or arraysize` rows: never fewer than there are -/
theorem le_fetchall_size (n a : Nat) : n ≤ if n = 0 then a else n := by
  cases n with
  | zero => exact Nat.zero_le _
  | succ m => exact Nat.le_refl _

/-- simulation relation between the code's cursor and the abstract read position -/
def Sim {α} (c : Cur α) (s : SCur α) : Prop :=
  c.rows? = s.res? ∧ c.arraysize = s.arraysize ∧ c.idx?.getD 0 = s.pos

theorem fetchmany_eq (c : Cur α) (size : Nat) :
    fetchmany c size =
      match c.rows? with
      | none => (none, c)
      | some rs =>
        let k := if size = 0 then c.arraysize else size
        (some ((rs.drop (c.idx?.getD 0)).take k), { c with idx? := some (c.idx?.getD 0 + k) }) := by
  obtain ⟨_ | rs, _ | j, a⟩ := c <;> simp only [fetchmany, Option.getD, Nat.zero_add]

theorem sim_step {c : Cur α} {s : SCur α} (h : Sim c s) (o : Op α) :
    (step c o).1 = (sstep s o).1 ∧ Sim (step c o).2 (sstep s o).2 := by
  obtain ⟨rows, idx, a⟩ := c
  obtain ⟨res, pos, a'⟩ := s
  obtain ⟨rfl, rfl, rfl⟩ : rows = res ∧ a = a' ∧ idx.getD 0 = pos := h
  cases rows with
  | none => cases o <;> exact ⟨rfl, rfl, rfl, rfl⟩
  | some rs =>
    cases o with
    | exec _ | fail | setAs _ | pandas => exact ⟨rfl, rfl, rfl, rfl⟩
    | one =>
      simp only [step, sstep, fetchmany_eq, List.head?_take, List.head?_drop]
      exact ⟨rfl, rfl, rfl, rfl⟩
    | many k =>
      simp only [step, sstep, fetchmany_eq]
      exact ⟨trivial, rfl, rfl, rfl⟩
    | all =>
      have : (rs.drop (idx.getD 0)).length ≤ if rs.length = 0 then a else rs.length :=
        List.length_drop ▸ Nat.le_trans (Nat.sub_le ..) (le_fetchall_size ..)
      simp only [step, sstep, fetchmany_eq, List.take_of_length_le this]
      exact ⟨trivial, rfl, rfl, rfl⟩

theorem sim_run {c : Cur α} {s : SCur α} (h : Sim c s) (ops : List (Op α)) :
    (run c ops).1 = (srun s ops).1 ∧ Sim (run c ops).2 (srun s ops).2 := by
  induction ops generalizing c s with
  | nil => exact ⟨rfl, h⟩
  | cons o os ih =>
    have h1 := sim_step h o
    have h2 := ih h1.2
    exact ⟨congr (congrArg List.cons h1.1) h2.1, h2.2⟩

theorem noExec_concat {ops : List (Op α)} {o : Op α} (h : ∀ o ∈ ops, o.isExec = false) (ho : o.isExec = false) :
    ∀ o' ∈ ops ++ [o], o'.isExec = false :=
  List.forall_mem_append.mpr ⟨h, List.forall_mem_singleton.mpr ho⟩

theorem sstep_res {s : SCur α} {r : Option (List α)} (hr : s.res? = r) {o : Op α} (h : o.isExec = false) :
    (sstep s o).2.res? = r := by
  subst hr
  cases o with
  | exec _ | fail => cases h
  | setAs _ => rfl
  | _ => obtain ⟨_ | rs, p, a⟩ := s <;> rfl

theorem sstep_ne_noResult {s : SCur α} {rs : List α} (hr : s.res? = some rs) {o : Op α} :
    (sstep s o).1 ≠ .noResult := by
  obtain ⟨_, p, a⟩ := s
  cases hr
  cases o <;> nofun

theorem sstep_all_pos {s : SCur α} {rs : List α} (hr : s.res? = some rs) : rs.length ≤ (sstep s .all).2.pos := by
  obtain ⟨_, p, a⟩ := s
  cases hr
  exact Nat.le_trans (le_fetchall_size ..) (Nat.le_add_left ..)

theorem Out.handed_row (r : Option α) : (Out.row r).handed = r.toList := by
  cases r <;> rfl

theorem sstep_prefix {s : SCur α} {rs : List α} (hr : s.res? = some rs) {o : Op α} (h : o.isExec = false) :
    rs.take s.pos ++ (sstep s o).1.handed = rs.take (sstep s o).2.pos ∧ s.pos ≤ (sstep s o).2.pos := by
  obtain ⟨_, p, a⟩ := s
  cases hr
  cases o with
  | exec _ | fail => cases h
  | setAs _ | pandas => exact ⟨List.append_nil _, Nat.le_refl _⟩
  | one => exact ⟨Out.handed_row _ ▸ List.take_add_one.symm, Nat.le_succ _⟩
  | many k => exact ⟨List.take_add.symm, Nat.le_add_right ..⟩
  | all =>
    exact ⟨(List.take_append_drop p rs).trans (List.take_of_length_le (sstep_all_pos rfl)).symm, Nat.le_add_right ..⟩

theorem srun_inv {I : SCur α → Prop} {P : Out α → Prop}
    (hstep : ∀ s o, I s → o.isExec = false → P (sstep s o).1 ∧ I (sstep s o).2)
    {s : SCur α} (hs : I s) {ops : List (Op α)} (h : ∀ o ∈ ops, o.isExec = false) :
    (∀ o ∈ (srun s ops).1, P o) ∧ I (srun s ops).2 := by
  induction ops generalizing s with
  | nil => exact ⟨nofun, hs⟩
  | cons o os ih =>
    rw [List.forall_mem_cons] at h
    have h1 := hstep s o hs h.1
    have h2 := ih h1.2 h.2
    exact ⟨List.forall_mem_cons.mpr ⟨h1.1, h2.1⟩, h2.2⟩

theorem srun_res {s : SCur α} {r : Option (List α)} (hr : s.res? = r) {ops : List (Op α)}
    (h : ∀ o ∈ ops, o.isExec = false) : (srun s ops).2.res? = r := by
  induction ops generalizing s with
  | nil => exact hr
  | cons o os ih =>
    have ⟨ho, hos⟩ := List.forall_mem_cons.mp h
    exact ih (sstep_res hr ho) hos

theorem run_no_result {c : Cur α} (hr : c.rows? = none) {ops : List (Op α)} (h : ∀ o ∈ ops, o.isExec = false) :
    ∀ o ∈ (run c ops).1, o = Out.noResult ∨ o = Out.unit := by
  rw [(sim_run (s := ⟨none, c.idx?.getD 0, c.arraysize⟩) ⟨hr, rfl, rfl⟩ ops).1]
  refine (srun_inv (I := (·.res? = none)) ?_ rfl h).1
  intro ⟨_, p, a⟩ o hs ho
  cases hs
  refine ⟨?_, sstep_res rfl ho⟩
  cases o with
  | exec _ | fail | setAs _ => exact .inr rfl
  | _ => exact .inl rfl

theorem handedAll_cons (o : Out α) (os : List (Out α)) : handedAll (o :: os) = o.handed ++ handedAll os :=
  List.flatMap_cons

theorem srun_prefix {s : SCur α} {rs : List α} (hr : s.res? = some rs) {ops : List (Op α)}
    (h : ∀ o ∈ ops, o.isExec = false) :
    rs.take s.pos ++ handedAll (srun s ops).1 = rs.take (srun s ops).2.pos := by
  induction ops generalizing s with
  | nil => exact List.append_nil _
  | cons o os ih =>
    have ⟨ho, hos⟩ := List.forall_mem_cons.mp h
    simp only [srun, handedAll_cons]
    rw [← List.append_assoc, (sstep_prefix hr ho).1, ih (sstep_res hr ho) hos]

theorem srun_handed {s : SCur α} {rs : List α} (hr : s.res? = some rs) (hp : s.pos = 0) {ops : List (Op α)}
    (h : ∀ o ∈ ops, o.isExec = false) : handedAll (srun s ops).1 = rs.take (srun s ops).2.pos := by
  rw [← srun_prefix hr h, hp]; rfl

theorem srun_fetchone_next {s : SCur α} {rs : List α} (hr : s.res? = some rs) (hp : s.pos = 0) {ops : List (Op α)}
    (h : ∀ o ∈ ops, o.isExec = false) :
    (srun s (ops ++ [.one])).1.getLast? = some (.row rs[(handedAll (srun s ops).1).length]?) := by
  rw [srun_handed hr hp h, List.length_take, srun_append]
  simp only [srun, sstep, srun_res hr h, List.getLast?_concat]
  -- the position may have run past the end: then both sides are `None`
  rcases Nat.le_total (srun s ops).2.pos rs.length with hle | hge
  · rw [Nat.min_eq_left hle]
  · rw [Nat.min_eq_right hge, List.getElem?_eq_none hge, List.getElem?_eq_none (Nat.le_refl _)]

theorem srun_exhausted {s : SCur α} {rs : List α} (hr : s.res? = some rs) (hp : rs.length ≤ s.pos)
    {ops : List (Op α)} (h : ∀ o ∈ ops, o.isExec = false) :
    ∀ o ∈ (srun s ops).1, o.handed = [] ∧ o ≠ .noResult := by
  refine (srun_inv (I := fun s => s.res? = some rs ∧ rs.length ≤ s.pos) ?_ ⟨hr, hp⟩ h).1
  intro s o ⟨hr, hp⟩ ho
  have ⟨e, l⟩ := sstep_prefix hr ho
  have hp' := Nat.le_trans hp l
  -- `rs ++ handed = rs`
  rw [List.take_of_length_le hp, List.take_of_length_le hp'] at e
  exact ⟨⟨List.append_right_eq_self.mp e, sstep_ne_noResult hr⟩, sstep_res hr ho, hp'⟩

theorem srun_all_pos {s : SCur α} {rs : List α} (hr : s.res? = some rs) {ops : List (Op α)}
    (h : ∀ o ∈ ops, o.isExec = false) : rs.length ≤ (srun s (ops ++ [.all])).2.pos := by
  rw [srun_append]
  exact sstep_all_pos (srun_res hr h)

end Fs.Fetch
