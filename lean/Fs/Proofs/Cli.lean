import Fs.Model.Cli
/-! Lemmas for C20 (command line part).  What `split` and the parser's first pass `items` do with a token depends only
    on its kind (`isM`, `isModAttached`, `startsDash`, `selfContained`; `classify`).  For each of the two: first the
    lemmas about an arbitrary token of each kind, then the tokens of the argv grammar, which supply the kind by
    evaluation, then the induction over the option list.  The second pass `consume` is evaluated on the letters that
    `items` yields for one option or target (`FsOpt.items`, `Target.items`). -/
namespace Fs.Cli

theorem split_cons (a : Tok) (rest : List Tok) (inFlag : Bool) :
    split (a :: rest) inFlag =
      if isM a then
        match rest with
        | [] => ([a], [])
        | v :: r => ([a, v], r)
      else if isModAttached a then ([a], rest)
      else if startsDash a then ((a :: (split rest (!selfContained a)).1), (split rest (!selfContained a)).2)
      else if !inFlag then ([a], rest)
      else (a :: (split rest false).1, (split rest false).2) := by
  rw [split.eq_def]
  rfl

theorem split_isM {a : Tok} (h : isM a = true) (v : Tok) (r : List Tok) (f : Bool) : split (a :: v :: r) f = ([a, v], r) := by
  rw [split_cons, if_pos h]

theorem split_modAttached {a : Tok} (h1 : isM a = false) (h2 : isModAttached a = true) (rest : List Tok) (f : Bool) :
    split (a :: rest) f = ([a], rest) := by
  rw [split_cons, h1, h2]; rfl

theorem split_selfContained {a : Tok} (h1 : isM a = false) (h2 : isModAttached a = false) (h3 : startsDash a = true)
    (h4 : selfContained a = true) (rest : List Tok) (f : Bool) :
    split (a :: rest) f = (a :: (split rest false).1, (split rest false).2) := by
  rw [split_cons, h1, h2, h3, h4]; rfl

theorem plain_cons {c : Char} {r : Tok} (h : plain (c :: r) = true) : c ≠ '-' := by
  simpa [plain, startsDash] using h

theorem plain_isM {v : Tok} (h : plain v = true) : isM v = false := by
  cases v with
  | nil => rfl
  | cons c r => simp [isM, plain_cons h]

theorem plain_isModAttached {v : Tok} (h : plain v = true) : isModAttached v = false := by
  cases v with
  | nil => rfl
  | cons c r => simp [isModAttached, isPrefix, (plain_cons h).symm]

theorem plain_startsDash {v : Tok} (h : plain v = true) : startsDash v = false := by
  simpa [plain] using h

theorem split_plain {a : Tok} (h : plain a = true) (rest : List Tok) (inFlag : Bool) :
    split (a :: rest) inFlag = if inFlag then (a :: (split rest false).1, (split rest false).2) else ([a], rest) := by
  rw [split_cons, plain_isM h, plain_isModAttached h, plain_startsDash h]; cases inFlag <;> rfl

theorem split_flag_value {a v : Tok} (h1 : isM a = false) (h2 : isModAttached a = false) (h3 : startsDash a = true)
    (h4 : selfContained a = false) (hv : plain v = true) (rest : List Tok) (f : Bool) :
    split (a :: v :: rest) f = (a :: v :: (split rest false).1, (split rest false).2) := by
  rw [split_cons, h1, h2, h3, h4, split_plain hv]; rfl

theorem contains_eq_append (a : Tok) (v : Tok) : (a ++ '=' :: v).contains '=' = true := by
  simp

theorem split_opt (o : FsOpt) (ho : o.ok = true) (rest : List Tok) :
    split (o.toks ++ rest) false = (o.toks ++ (split rest false).1, (split rest false).2) := by
  -- the kind of each token is found by `rfl` although the value `v` is a variable: the tests (`isM`, `selfContained`, …) read
  -- the token up to its first `=`, or its first characters, and never reach `v`
  cases o with
  | dSp l v => cases l <;> exact split_flag_value rfl rfl rfl rfl ho rest false
  | dEq v => exact split_selfContained rfl rfl rfl rfl rest false
  | dAtt v =>
    cases v with
    | nil => cases ho
    | cons c r => exact split_selfContained rfl rfl rfl rfl rest false

theorem split_opts (opts : List FsOpt) (h : ∀ o ∈ opts, o.ok = true) (rest : List Tok) :
    split (opts.flatMap FsOpt.toks ++ rest) false =
      (opts.flatMap FsOpt.toks ++ (split rest false).1, (split rest false).2) := by
  induction opts with
  | nil => rfl
  | cons o os ih =>
    obtain ⟨ho, hos⟩ := List.forall_mem_cons.mp h
    simp only [List.flatMap_cons, List.append_assoc]
    rw [split_opt o ho, ih hos]

theorem split_target (t : Target) (ht : t.ok = true) (targs : List Tok) :
    split (t.toks ++ targs) false = (t.toks, targs) := by
  cases t with
  | path p => exact split_plain (Bool.and_eq_true_iff.mp ht).1 targs false
  | mSp l m => cases l <;> exact split_isM rfl m targs false
  | mEq m => exact split_modAttached rfl rfl targs false
  | mAtt m =>
    cases m with
    | nil => cases ht
    | cons c r => exact split_modAttached rfl rfl targs false

theorem split_render (opts : List FsOpt) (t : Target) (targs : List Tok)
    (ho : ∀ o ∈ opts, o.ok = true) (ht : t.ok = true) :
    split (render opts t targs) false = (opts.flatMap FsOpt.toks ++ t.toks, targs) := by
  simp only [render, List.append_assoc]
  rw [split_opts opts ho, split_target t ht]

theorem plain_classify {v : Tok} (h : plain v = true) : classify v = .arg := by
  cases v with
  | nil => rfl
  | cons c r => simp [classify, plain_cons h]

theorem lookupOpt_single_dash (x c : Char) (r : Tok) (hx : x ≠ '-') : lookupOpt ('-' :: x :: c :: r) = none := by
  simp [lookupOpt, tH, tHelp, tD, tDbPath, tMs, tModule, hx]

theorem eqForm_attached (x c : Char) (r : Tok) (hx : x ≠ '=') (hx' : x ≠ '-') (hc : c ≠ '=') :
    eqForm ('-' :: x :: c :: r) = none := by
  have hd : ('-' : Char) ≠ '=' := by decide
  simp only [eqForm, splitEq, hd, hx, hc, if_false]
  cases splitEq r with
  | none => rfl
  | some p => simp only [lookupOpt_single_dash x c p.1 hx', Option.map_none]

/-- `-xVALUE`; `hc` because argparse reads `-x=…` as the `=` form (`eqForm`) -/
theorem classify_attached (x c : Char) (r : Tok) (a : Act) (ha : lookupOpt ['-', x] = some a) (hc : c ≠ '=') :
    classify ('-' :: x :: c :: r) = .opt a (some (c :: r)) true := by
  have hx : x ≠ '=' := by rintro rfl; cases ha
  have hx' : x ≠ '-' := by rintro rfl; cases ha
  have ht : optionTuples ('-' :: x :: c :: r) = [(a, some (c :: r), true)] := by
    simp [optionTuples, startsDashDash, hx', ha]
  rw [classify]
  simp only [lookupOpt_single_dash x c r hx', eqForm_attached x c r hx hx' hc, ht]
  -- left: the guards `'-' ≠ '-'` and `length = 1`, both false
  simp

/-- `rfl` although `v` is a variable: the parser reads the token up to the first `=` -/
theorem classify_dEq (v : Tok) : classify (tDbPath ++ '=' :: v) = .opt .db (some v) false := by rfl

theorem classify_mEq (v : Tok) : classify (tModule ++ '=' :: v) = .opt .mod (some v) false := by rfl

theorem items_cons_opt {t : Tok} {a : Act} {e : Option Tok} {s : Bool} (h : classify t = .opt a e s)
    {ts : List Tok} {its : List Item} (hr : items ts = some its) : items (t :: ts) = some (.O a e s :: its) := by
  have : t ≠ tDD := by rintro rfl; cases h
  simp only [items, this, if_false, h, hr, Option.map_some]

theorem items_cons_plain {t : Tok} (h : plain t = true) {ts : List Tok} {its : List Item} (hr : items ts = some its) :
    items (t :: ts) = some (.A t :: its) := by
  have : t ≠ tDD := by rintro rfl; cases h
  simp only [items, this, if_false, plain_classify h, hr, Option.map_some]

def FsOpt.items : FsOpt → List Item
  | .dSp l v => [.O .db none (!l), .A v]
  | .dEq v => [.O .db (some v) false]
  | .dAtt v => [.O .db (some v) true]

def Target.items : Target → List Item
  | .path p => [.A p]
  | .mSp l m => [.O .mod none (!l), .A m]
  | .mEq m => [.O .mod (some m) false]
  | .mAtt m => [.O .mod (some m) true]

theorem items_opt (o : FsOpt) (ho : o.ok = true) {rest : List Tok} {its : List Item} (hr : items rest = some its) :
    items (o.toks ++ rest) = some (o.items ++ its) := by
  cases o with
  | dSp l v => cases l <;> exact items_cons_opt rfl (items_cons_plain ho hr)
  | dEq v => exact items_cons_opt (classify_dEq v) hr
  | dAtt v =>
    cases v with
    | nil => cases ho
    | cons c r =>
      exact items_cons_opt (classify_attached 'd' c r .db rfl (of_decide_eq_true ho)) hr

theorem items_target (t : Target) (ht : t.ok = true) : items t.toks = some t.items := by
  cases t with
  | path p => exact items_cons_plain (Bool.and_eq_true_iff.mp ht).1 rfl
  | mSp l m => cases l <;> exact items_cons_opt rfl (items_cons_plain (Bool.and_eq_true_iff.mp ht).1 rfl)
  | mEq m => exact items_cons_opt (classify_mEq m) rfl
  | mAtt m =>
    cases m with
    | nil => cases ht
    | cons c r =>
      exact items_cons_opt (classify_attached 'm' c r .mod rfl (of_decide_eq_true ht)) rfl

theorem items_opts (opts : List FsOpt) (h : ∀ o ∈ opts, o.ok = true) {rest : List Tok} {its : List Item}
    (hr : items rest = some its) :
    items (opts.flatMap FsOpt.toks ++ rest) = some (opts.flatMap FsOpt.items ++ its) := by
  induction opts with
  | nil => exact hr
  | cons o os ih =>
    obtain ⟨ho, hos⟩ := List.forall_mem_cons.mp h
    simp only [List.flatMap_cons, List.append_assoc]
    exact items_opt o ho (ih hos)

/-- parser state while only fakesnow options have been seen -/
def optState (db : Option Tok) : PState := { db := db }

theorem consume_opt (o : FsOpt) (rest : List Item) (db : Option Tok) :
    consume (o.items ++ rest) (optState db) = consume rest (optState (some o.value)) := by
  cases o <;> rfl

theorem consume_opts (opts : List FsOpt) (rest : List Item) (db : Option Tok) :
    consume (opts.flatMap FsOpt.items ++ rest) (optState db) = consume rest (optState (lastDb opts db)) := by
  induction opts generalizing db with
  | nil => rfl
  | cons o os ih =>
    simp only [List.flatMap_cons, List.append_assoc, lastDb]
    rw [consume_opt, ih]

/-- the Namespace argparse must produce for a target -/
def Target.parsed (t : Target) (db : Option Tok) : PRes :=
  match t with
  | .path p => .ok db none (some p)
  | t => .ok db (some t.name) none

theorem consume_target (t : Target) (db : Option Tok) :
    consume t.items (optState db) = t.parsed db := by
  cases t <;> rfl

theorem parse_grammar (opts : List FsOpt) (t : Target) (ho : ∀ o ∈ opts, o.ok = true) (ht : t.ok = true) :
    parseArgs (opts.flatMap FsOpt.toks ++ t.toks) = t.parsed (lastDb opts none) := by
  have := items_opts opts ho (items_target t ht)
  simp only [parseArgs, this]
  exact (consume_opts opts t.items none).trans (consume_target t _)

end Fs.Cli
