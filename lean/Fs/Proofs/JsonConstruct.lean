import Fs.Spec.Json
import Fs.Proofs.Basic
/-! C11: OBJECT_CONSTRUCT, SPLIT and LATERAL FLATTEN (models separate from the expression pipeline). -/
namespace Fs.Json

/-- no argument that is not the literal NULL evaluates to NULL -/
def noHiddenNull (ps : Pairs) : Bool := ps.all fun (_, a) => a.isLitNull || a.val.isSome

theorem objectConstruct_partial (ps : Pairs) (h : noHiddenNull ps = true) :
    objectConstructImpl ps = objectConstructSpec ps := by
  refine filterMap_congr fun ⟨k, a⟩ hm => ?_
  have h' : (a.isLitNull || a.val.isSome) = true := List.all_eq_true.mp h _ hm
  -- the two filters differ only on a NULL value that is not the literal, which `h'` excludes
  rcases k with _ | k <;> rcases a with _ | _ | v <;> first | rfl | cases h'

theorem splitOn_eq (sep : Char) (s : List Char) : splitOn sep s = s.splitOn sep := by
  induction s with
  | nil => rfl
  | cons c cs ih =>
    rw [splitOn, List.splitOn_cons_eq_if_modifyHead, ih]
    by_cases e : c = sep
    · rw [if_pos e, if_pos (beq_iff_eq.2 e)]
    · rw [if_neg e, if_neg (mt beq_iff_eq.1 e)]
      cases h : cs.splitOn sep with
      | nil => exact absurd h (List.splitOn_ne_nil sep cs)
      | cons p ps => rfl

theorem splitOn_ne_nil (sep : Char) (s : List Char) : splitOn sep s ≠ [] :=
  splitOn_eq sep s ▸ List.splitOn_ne_nil sep s

/-- `splitOn` recurses through a `match` on its own result; this is its step with that match resolved -/
theorem splitOn_cons (sep c : Char) (cs : List Char) : ∃ p ps, splitOn sep cs = p :: ps ∧
    splitOn sep (c :: cs) = if c = sep then [] :: p :: ps else (c :: p) :: ps := by
  cases h : splitOn sep cs with
  | nil => exact absurd h (splitOn_ne_nil sep cs)
  | cons p ps => exact ⟨p, ps, rfl, by rw [splitOn, h]⟩

theorem splitOn_join (sep : Char) (s : List Char) : [sep].intercalate (splitOn sep s) = s :=
  splitOn_eq sep s ▸ List.intercalate_splitOn sep

theorem splitOn_no_sep (sep : Char) (s : List Char) : ∀ p ∈ splitOn sep s, sep ∉ p := by
  induction s with
  | nil => intro p hp; rw [List.mem_singleton.mp hp]; exact List.not_mem_nil
  | cons c cs ih =>
    obtain ⟨p, ps, h, hc⟩ := splitOn_cons sep c cs
    rw [h] at ih
    rw [hc]
    intro x hx
    split at hx <;> rcases List.mem_cons.mp hx with rfl | hx
    · exact List.not_mem_nil
    · exact ih x hx
    · next e =>
      intro hm
      rcases List.mem_cons.mp hm with rfl | hm
      · exact e rfl
      · exact ih p List.mem_cons_self hm
    · exact ih x (List.mem_cons_of_mem _ hx)

theorem JList.toList_length : ∀ l : JList, l.toList.length = l.length
  | .nil => rfl
  | .cons _ t => congrArg (· + 1) (toList_length t)

theorem JList.toList_get : ∀ (l : JList) (i : Nat), i < l.length →
    (l.toList.map fun j => ofOpt (some j))[i]? = some (ofOpt (l.get? i))
  | .cons _ _, 0, _ => rfl
  | .cons _ t, i + 1, h => toList_get t i (Nat.lt_of_succ_lt_succ h)

end Fs.Json
