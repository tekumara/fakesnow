import Fs.Model.Rewrite
import Fs.Proofs.JsonText
import Fs.Proofs.Basic
import Fs.Proofs.StrLit
/-! What the functions of `Fs.Model.Rewrite` do on each form of input (C10). -/
namespace Fs.Rewrite
open Fs.Json

theorem duckListAt_natCast {α} {l : List α} {n : Nat} (h : 1 ≤ n) : duckListAt l (n : Int) = l[n - 1]? :=
  (if_pos (Int.ofNat_le.2 h)).trans (congrArg (l[·]?) (Int.toNat_sub n 1))

theorem contains_filter_ne (c : Char) (p : List Char) : (p.filter (· != c)).contains c = false := by
  simp

/-- the default group is 0 whatever the parameters: the `e` test runs on the parameters from which `e` has been removed -/
theorem rxImpl_eq {M} {extractAll : List Char → Nat → List M} {subject : List Char} {a : RxArgs}
    (hd : a.inDomain = true) :
    rxImpl extractAll subject a =
      (extractAll (subject.drop (a.position.getD 1 - 1)) (a.group.getD 0))[a.occurrence.getD 1 - 1]? := by
  simp only [RxArgs.inDomain, Bool.and_eq_true, decide_eq_true_eq] at hd
  simp only [rxImpl, rxRewrite, duckSlice, genIndex, contains_filter_ne, Bool.false_eq_true, if_false,
    Int.sub_add_cancel, duckListAt_natCast hd.2]

theorem dollarQuotedString_of_ne_expr {p : StrNode} (hp : p ≠ .expr) : dollarQuotedString p = .lit := by
  cases p with
  | expr => exact absurd rfl hp
  | _ => rfl

theorem rrRule_lit (a : RrArgs) :
    rrRule .lit a = if a.count > 3 then .rejected else .rewritten (!a.hasReplacement) := if_pos rfl

/-- Arguments are positional (`hpos`): one of the last three comes with a replacement, which makes four; without any of
    them there are at most three. -/
theorem RrArgs.count_gt_three (a : RrArgs)
    (hpos : (a.position.isSome ∨ a.occurrence.isSome ∨ a.params.isSome) → a.hasReplacement = true) :
    a.count > 3 ↔ (a.position.isSome ∨ a.occurrence.isSome ∨ a.params.isSome) := by
  unfold RrArgs.count
  generalize a.hasReplacement = r, a.position.isSome = x, a.occurrence.isSome = y, a.params.isSome = z at hpos ⊢
  revert r x y z
  decide

theorem toDecimalAnonRule_eq_toNumberRule (args : List NArg) :
    toDecimalAnonRule args = toNumberRule (slots args).1 (slots args).2.1 (slots args).2.2 :=
  match args with
  | [] | [.str] | .str :: _ :: _ | [.num _] | .num _ :: _ :: _ => rfl

theorem parseDecimalType_digits {ps ss rest : List Char} (hp : ps.all isDigit = true) (hs : ss.all isDigit = true) :
    parseDecimalType ("DECIMAL(".toList ++ (ps ++ ',' :: (ss ++ ')' :: rest))) = (digitsVal ps, digitsVal ss) := by
  obtain ⟨h1, h2⟩ := takeWhile_append_stop isDigit ps ',' (ss ++ ')' :: rest) hp rfl
  obtain ⟨h3, h4⟩ := takeWhile_append_stop isDigit ss ')' rest hs rfl
  have hlen : "DECIMAL(".toList.length = 8 := by string_lits; rfl
  unfold parseDecimalType
  rw [if_pos (List.take_left' hlen), List.drop_left' hlen]
  simp only [h1, h2, h3, h4]

theorem unixToTimeFn_tzAware (scale : Option Nat) :
    (unixToTimeFn scale).tzAware = true ↔ scale ≠ some 3 ∧ scale ≠ some 6 := by
  fun_cases unixToTimeFn scale <;> simp_all [TsFn.tzAware]

/-- the units of a day or larger are the four the code lists, and QUARTER -/
theorem DUnit.dayOrLarger_eq (u : DUnit) :
    u.dayOrLarger = (u = .day || u = .week || u = .month || u = .year || u = .quarter) := by
  cases u <;> rfl

theorem columnName_inj {i j : Nat} (h : columnName i = columnName j) : i = j :=
  Nat.succ.inj (natDigits_inj (List.append_cancel_left h))

theorem valuesColumns_getElem? {n i : Nat} (h : i < n) : (valuesColumns n)[i]? = some (columnName i) := by
  rw [valuesColumns, List.getElem?_map, List.getElem?_range h, Option.map_some]

theorem randomImpl_rewritten_eq_spec_iff (calls : List RandArg) :
    (randomImpl calls).rewritten = randomSpecRewritten calls ↔ calls.length ≤ 1 :=
  match calls with
  | [] => ⟨fun _ => Nat.zero_le _, fun _ => rfl⟩
  | [_] => ⟨fun _ => Nat.le_refl _, fun _ => rfl⟩
  -- the second entries are `false` and `true`
  | _ :: _ :: _ => ⟨fun h => Bool.noConfusion (List.cons.inj (List.cons.inj h).2).1,
      fun h => absurd (Nat.le_of_succ_le_succ h) (Nat.not_succ_le_zero _)⟩

theorem aliasInJoin_eq_map (aliases : List Nat) (js : List JoinOn) :
    aliasInJoin aliases js = js.map (rewriteJoin aliases) := by
  induction js with
  | nil => rfl
  | cons j js ih => rw [aliasInJoin, ih, List.map_cons]

theorem topDownX_fire (r : X → Option X) {e e' : X} (h : r e = some e') : topDownX r e = e' := by
  rw [topDownX.eq_def, h]

theorem topDownX_n1 {r : X → Option X} {f a} (h : r (.n1 f a) = none) : topDownX r (.n1 f a) = .n1 f (topDownX r a) := by
  rw [topDownX.eq_def, h]
theorem topDownX_n2 {r : X → Option X} {f a b} (h : r (.n2 f a b) = none) :
    topDownX r (.n2 f a b) = .n2 f (topDownX r a) (topDownX r b) := by
  rw [topDownX.eq_def, h]
theorem topDownX_n3 {r : X → Option X} {f a b c} (h : r (.n3 f a b c) = none) :
    topDownX r (.n3 f a b c) = .n3 f (topDownX r a) (topDownX r b) (topDownX r c) := by
  rw [topDownX.eq_def, h]

end Fs.Rewrite
