import Fs.Spec.Json
/-! C11: what the rewrite pipeline makes of the named source shapes.  `pipeline = back ∘ front`, computed node by node.  An extraction chain
(`Nav`) is a fixed point of every pass but `json_extract_precedence`, which parenthesises its outermost extract (`Nav.out`); an access
(`Acc`: a chain, or one subscript on top of one) is `Acc.mid` after `front` and `Acc.out` after `back`. -/
namespace Fs.Json

section
variable {r : E → Option E}
theorem topDown_fire {e e' : E} (h : r e = some e') : topDown r e = e' := by rw [topDown.eq_def, h]
theorem topDown_col (h : r .col = none) : topDown r .col = .col := by rw [topDown.eq_def, h]
theorem topDown_lit {l} (h : r (.lit l) = none) : topDown r (.lit l) = .lit l := by rw [topDown.eq_def, h]
theorem topDown_jx {x p} (h : r (.jx x p) = none) : topDown r (.jx x p) = .jx (topDown r x) p := by rw [topDown.eq_def, h]
theorem topDown_jxs {x p} (h : r (.jxs x p) = none) : topDown r (.jxs x p) = .jxs (topDown r x) p := by rw [topDown.eq_def, h]
theorem topDown_bracket {x i} (h : r (.bracket x i) = none) : topDown r (.bracket x i) = .bracket (topDown r x) i := by
  rw [topDown.eq_def, h]
theorem topDown_paren {x} (h : r (.paren x) = none) : topDown r (.paren x) = .paren (topDown r x) := by rw [topDown.eq_def, h]
theorem topDown_parseJson {x} (h : r (.parseJson x) = none) : topDown r (.parseJson x) = .parseJson (topDown r x) := by
  rw [topDown.eq_def, h]
theorem topDown_cast {x t} (h : r (.cast x t) = none) : topDown r (.cast x t) = .cast (topDown r x) t := by rw [topDown.eq_def, h]
theorem topDown_upper {x} (h : r (.upper x) = none) : topDown r (.upper x) = .upper (topDown r x) := by rw [topDown.eq_def, h]
theorem topDown_lower {x} (h : r (.lower x) = none) : topDown r (.lower x) = .lower (topDown r x) := by rw [topDown.eq_def, h]
theorem topDown_trim {x} (h : r (.trim x) = none) : topDown r (.trim x) = .trim (topDown r x) := by rw [topDown.eq_def, h]
theorem topDown_arraySize {x} (h : r (.arraySize x) = none) : topDown r (.arraySize x) = .arraySize (topDown r x) := by
  rw [topDown.eq_def, h]
theorem topDown_bin {o a b} (h : r (.bin o a b) = none) : topDown r (.bin o a b) = .bin o (topDown r a) (topDown r b) := by
  rw [topDown.eq_def, h]
theorem topDown_not {x} (h : r (.not x) = none) : topDown r (.not x) = .not (topDown r x) := by rw [topDown.eq_def, h]
theorem topDown_isNull {x} (h : r (.isNull x) = none) : topDown r (.isNull x) = .isNull (topDown r x) := by rw [topDown.eq_def, h]
end

section
variable (r : E → Option E)
theorem topDown_caseLen (x) (h : r (.caseLen x) = none) : topDown r (.caseLen x) = .caseLen (topDown r x) := by rw [topDown.eq_def, h]
end

/-- the passes of `pipeline` that run before `json_extract_precedence` … -/
def front (e : E) : E := casedAsVarchar (castAsVarchar (topDown indicesRule (topDown trimRule e)))

/-- … and the two from it on.  What a half makes of a node holds by `rfl`, for arbitrary operands; the pipeline is cut in two because
    the unifier's work for such an unfolding grows much faster than linearly with the number of nested passes. -/
def back (e : E) : E := topDown arraySizeRule (topDown precRule e)

theorem pipeline_eq (e : E) : pipeline e = back (front e) := rfl

theorem front_jx (x : E) (p : PathLit) : front (.jx x p) = .jx (front x) p := rfl
theorem front_parseJson (x : E) : front (.parseJson x) = .parseJson (front x) := rfl
theorem front_arraySize (x : E) : front (.arraySize x) = .arraySize (front x) := rfl
theorem front_isNull (x : E) : front (.isNull x) = .isNull (front x) := rfl
theorem front_bin (o : Op) (a b : E) : front (.bin o a b) = .bin o (front a) (front b) := rfl
theorem front_not (x : E) : front (.not x) = .not (front x) := rfl
theorem front_paren (x : E) : front (.paren x) = .paren (front x) := rfl
theorem front_lit (l : Lit) : front (.lit l) = .lit l := rfl
/-- `json_extract_cast_as_varchar` edits the node in place, so the operand of the extract is rewritten as well (`front x`) -/
theorem front_cast_path (x : E) (q : Path) (t : Ty) : front (.cast (.jx x (.path q)) t) = .cast (.jxs (front x) (.path q)) t := rfl

/-- `json_extract_precedence` replaces the extract, so its operand is not visited by that pass: not `back x` -/
theorem back_jx (x : E) (p : PathLit) : back (.jx x p) = .paren (.jx (topDown arraySizeRule x) p) := rfl
theorem back_jxs (x : E) (p : PathLit) : back (.jxs x p) = .paren (.jxs (topDown arraySizeRule x) p) := rfl
theorem back_cast (x : E) (t : Ty) : back (.cast x t) = .cast (back x) t := rfl
theorem back_upper (x : E) : back (.upper x) = .upper (back x) := rfl
theorem back_lower (x : E) : back (.lower x) = .lower (back x) := rfl
theorem back_trim (x : E) : back (.trim x) = .trim (back x) := rfl
theorem back_isNull (x : E) : back (.isNull x) = .isNull (back x) := rfl
/-- `array_size` does not descend into the node it created -/
theorem back_arraySize (x : E) : back (.arraySize x) = .caseLen (topDown precRule x) := rfl

theorem topDown_nav {r : E → Option E} (hc : r .col = none) (hj : ∀ x p, r (.jx x p) = none) (n : Nav) :
    topDown r n.toE = n.toE := by
  induction n with
  | col => exact topDown_col hc
  | path n p ih => rw [Nav.toE, topDown_jx (hj _ _), ih]

theorem trim_nav (n : Nav) : topDown trimRule n.toE = n.toE := topDown_nav rfl (fun _ _ => rfl) n
theorem indices_nav (n : Nav) : topDown indicesRule n.toE = n.toE := topDown_nav rfl (fun _ _ => rfl) n
theorem arraySize_nav (n : Nav) : topDown arraySizeRule n.toE = n.toE := topDown_nav rfl (fun _ _ => rfl) n

/-- "unquote": `json_extract_cast_as_varchar` and `json_extract_cased_as_varchar`, which find no cast, UPPER or LOWER in a chain -/
theorem unquote_nav (n : Nav) : casedAsVarchar (castAsVarchar n.toE) = n.toE := by
  induction n with
  | col => rfl
  | path n p ih => exact congrArg (E.jx · (.path p)) ih

theorem front_nav (n : Nav) : front n.toE = n.toE := by
  rw [front, trim_nav, indices_nav, unquote_nav]

/-- what `json_extract_precedence` makes of a chain: only the outermost extract is parenthesised (the replaced node is pruned) -/
def Nav.out : Nav → E
  | .col => .col
  | .path n p => .paren (.jx n.toE (.path p))

theorem prec_nav (n : Nav) : topDown precRule n.toE = n.out := by cases n <;> rfl

theorem arraySize_navout (n : Nav) : topDown arraySizeRule n.out = n.out := by
  cases n with
  | col => rfl
  | path n p => exact congrArg (fun x => E.paren (.jx x (.path p))) (arraySize_nav n)

/-- `->` turned into `->>`: what the two unquoting rewrites do to the operand of a conversion -/
def E.scalar : E → E
  | .jx x (.path p) => .jxs x (.path p)
  | e => e

/-- an access after the passes before `json_extract_precedence`: only the subscript rewrite has touched it -/
def Acc.mid : Acc → E
  | .nav n => n.toE
  | .brk n i => if i.truthy then .jx n.toE (.raw (bracketPath i)) else .bracket n.toE i

/-- what `back` makes of `Acc.mid`: the access as the whole pipeline leaves it (`pipeline_bare`) -/
def Acc.out : Acc → E
  | .nav n => n.out
  | .brk n i => if i.truthy then .paren (.jx n.toE (.raw (bracketPath i))) else .bracket n.out i

/-- the same with `->>` where the access is a `:`-path -/
def Acc.outScalar : Acc → E
  | .nav (.path n p) => .paren (.jxs n.toE (.path p))
  | a => a.out

theorem indices_bracket (x : E) (i : BIdx) : topDown indicesRule (.bracket x i) =
    if i.truthy then .jx x (.raw (bracketPath i)) else .bracket (topDown indicesRule x) i := by
  rw [topDown.eq_def]
  cases h : i.truthy <;> simp [indicesRule, h]

theorem trim_acc (a : Acc) : topDown trimRule a.toE = a.toE := by
  cases a with
  | nav n => exact trim_nav n
  | brk n i => rw [Acc.toE, topDown_bracket rfl, trim_nav]

theorem indices_acc (a : Acc) : topDown indicesRule a.toE = a.mid := by
  cases a with
  | nav n => exact indices_nav n
  | brk n i => rw [Acc.toE, indices_bracket, indices_nav, Acc.mid]

theorem Acc.mid_cases {P : E → Prop} (a : Acc) (col : P .col) (jx : ∀ n pl, P (.jx (Nav.toE n) pl))
    (bracket : ∀ n i, P (.bracket (Nav.toE n) i)) : P a.mid := by
  rcases a with (_ | ⟨n, p⟩) | ⟨n, i⟩
  · exact col
  · exact jx n (.path p)
  · simp only [Acc.mid]
    split
    · exact jx n _
    · exact bracket n i

theorem front_acc (a : Acc) : front a.toE = a.mid := by
  rw [front, trim_acc, indices_acc]
  exact a.mid_cases (P := fun m => casedAsVarchar (castAsVarchar m) = m) rfl
    (fun n pl => congrArg (E.jx · pl) (unquote_nav n)) (fun n i => congrArg (E.bracket · i) (unquote_nav n))

theorem front_cast (a : Acc) (t : Ty) : front (.cast a.toE t) = .cast a.mid.scalar t := by
  rw [front, topDown_cast rfl, trim_acc, topDown_cast rfl, indices_acc]
  refine a.mid_cases (P := fun m => casedAsVarchar (castAsVarchar (.cast m t)) = .cast m.scalar t) rfl (fun n pl => ?_)
    (fun n i => congrArg (fun x => E.cast (.bracket x i) t) (unquote_nav n))
  cases pl
  · exact congrArg (fun x => E.cast (.jxs x _) t) (unquote_nav n)
  · exact congrArg (fun x => E.cast (.jx x _) t) (unquote_nav n)

theorem front_upper (a : Acc) : front (.upper a.toE) = .upper a.mid.scalar := by
  rw [front, topDown_upper rfl, trim_acc, topDown_upper rfl, indices_acc]
  refine a.mid_cases (P := fun m => casedAsVarchar (castAsVarchar (.upper m)) = .upper m.scalar) rfl (fun n pl => ?_)
    (fun n i => congrArg (fun x => E.upper (.bracket x i)) (unquote_nav n))
  cases pl
  · exact congrArg (fun x => E.upper (.jxs x _)) (unquote_nav n)
  · exact congrArg (fun x => E.upper (.jx x _)) (unquote_nav n)

theorem front_lower (a : Acc) : front (.lower a.toE) = .lower a.mid.scalar := by
  rw [front, topDown_lower rfl, trim_acc, topDown_lower rfl, indices_acc]
  refine a.mid_cases (P := fun m => casedAsVarchar (castAsVarchar (.lower m)) = .lower m.scalar) rfl (fun n pl => ?_)
    (fun n i => congrArg (fun x => E.lower (.bracket x i)) (unquote_nav n))
  cases pl
  · exact congrArg (fun x => E.lower (.jxs x _)) (unquote_nav n)
  · exact congrArg (fun x => E.lower (.jx x _)) (unquote_nav n)

theorem prec_mid (a : Acc) : topDown precRule a.mid = a.out := by
  cases a with
  | nav n => exact prec_nav n
  | brk n i =>
    simp only [Acc.mid, Acc.out]
    split
    · rfl
    · rw [topDown_bracket rfl, prec_nav]

theorem arraySize_accout (a : Acc) : topDown arraySizeRule a.out = a.out := by
  cases a with
  | nav n => exact arraySize_navout n
  | brk n i =>
    simp only [Acc.out]
    split
    · exact congrArg (fun x => E.paren (.jx x _)) (arraySize_nav n)
    · rw [topDown_bracket rfl, arraySize_navout]

theorem back_mid (a : Acc) : back a.mid = a.out := by rw [back, prec_mid, arraySize_accout]

theorem back_scalar (a : Acc) : back a.mid.scalar = a.outScalar := by
  rcases a with (_ | ⟨n, p⟩) | ⟨n, i⟩
  · rfl
  · exact congrArg (fun x => E.paren (.jxs x (.path p))) (arraySize_nav n)
  · -- a subscript that was rewritten carries a raw path text, which `scalar` leaves as it is
    rw [show (Acc.brk n i).mid.scalar = (Acc.brk n i).mid by simp only [Acc.mid]; split <;> rfl]
    exact back_mid _

theorem pipeline_bare (a : Acc) : pipeline a.toE = a.out := by rw [pipeline_eq, front_acc, back_mid]

theorem pipeline_isNull (a : Acc) : pipeline (.isNull a.toE) = .isNull a.out := by
  rw [pipeline_eq, front_isNull, front_acc, back_isNull, back_mid]

theorem pipeline_arraySize (a : Acc) : pipeline (.arraySize a.toE) = .caseLen a.out := by
  rw [pipeline_eq, front_arraySize, front_acc, back_arraySize, prec_mid]

theorem pipeline_cast (a : Acc) (t : Ty) : pipeline (.cast a.toE t) = .cast a.outScalar t := by
  rw [pipeline_eq, front_cast, back_cast, back_scalar]

theorem pipeline_upper (a : Acc) : pipeline (.upper a.toE) = .upper a.outScalar := by
  rw [pipeline_eq, front_upper, back_upper, back_scalar]

theorem pipeline_lower (a : Acc) : pipeline (.lower a.toE) = .lower a.outScalar := by
  rw [pipeline_eq, front_lower, back_lower, back_scalar]

theorem trimRule_acc (a : Acc) : trimRule (.trim a.toE) = some (.trim (.cast a.toE .text)) := by
  rcases a with (_ | _) | _ <;> rfl

/-- `trim_cast_varchar` runs first and wraps the operand in a cast, which `json_extract_cast_as_varchar` then sees -/
theorem pipeline_trim (a : Acc) : pipeline (.trim a.toE) = .trim (pipeline (.cast a.toE .text)) := by
  have h : front (.trim a.toE) = .trim (front (.cast a.toE .text)) := by
    rw [front, front, topDown_fire (trimRule_acc a), topDown_cast (r := trimRule) rfl, trim_acc]
    rfl
  rw [pipeline_eq, h, back_trim, ← pipeline_eq]

theorem pipeline_bin (o : Op) (a b : E) : pipeline (.bin o a b) = .bin o (pipeline a) (pipeline b) := by
  rw [pipeline_eq, front_bin]; rfl

theorem pipeline_not (a : E) : pipeline (.not a) = .not (pipeline a) := by
  rw [pipeline_eq, front_not]; rfl

theorem pipeline_paren (a : E) : pipeline (.paren a) = .paren (pipeline a) := by
  rw [pipeline_eq, front_paren]; rfl

theorem pipeline_lit (l : Lit) : pipeline (.lit l) = .lit l := by
  rw [pipeline_eq, front_lit]; rfl

/-- `PARSE_JSON(<chain>:p::varchar)`, the inner part of `PARSE_JSON(v:payload::varchar):k::t` (a document whose string value is
    itself JSON text) -/
def nestedInner (n : Nav) (p : Path) : E := .parseJson (.cast (.jx n.toE (.path p)) .text)

/-- what the pipeline makes of it: its cast-of-path has become `->>` too (the outer rewrite edits in place, so the traversal
    goes on below it) -/
def nestedInnerOut (n : Nav) (p : Path) : E := .parseJson (.cast (.jxs n.toE (.path p)) .text)

theorem front_nestedInner (n : Nav) (p : Path) : front (nestedInner n p) = nestedInnerOut n p := by
  rw [nestedInner, front_parseJson, front_cast_path, front_nav, nestedInnerOut]

theorem arraySize_nestedInnerOut (n : Nav) (p : Path) : topDown arraySizeRule (nestedInnerOut n p) = nestedInnerOut n p :=
  congrArg (fun x => E.parseJson (.cast (.jxs x (.path p)) .text)) (arraySize_nav n)

theorem pipeline_nested_cast (n : Nav) (p q : Path) (t : Ty) :
    pipeline (.cast (.jx (nestedInner n p) (.path q)) t) = .cast (.paren (.jxs (nestedInnerOut n p) (.path q))) t := by
  rw [pipeline_eq, front_cast_path, front_nestedInner, back_cast, back_jxs, arraySize_nestedInnerOut]

theorem pipeline_nested_bare (n : Nav) (p q : Path) :
    pipeline (.jx (nestedInner n p) (.path q)) = .paren (.jx (nestedInnerOut n p) (.path q)) := by
  rw [pipeline_eq, front_jx, front_nestedInner, back_jx, arraySize_nestedInnerOut]

end Fs.Json
