import Fs.Model.Meta
import Fs.Proofs.Basic
/-! Lemmas for C09.  A side table answers with its newest matching row (`lookupT_cons_*`, `lookupC_append`), so rows added for
one key leave every other object's answers alone.  `Inv` survives the shapes of catalog change: `inv_drop` (the object under `k`
removed, side tables as they are), and, when the side tables change at that key only, `inv_replace` (a new object placed under
`k`) and `inv_update` (the object under `k` changed, possibly re-keyed); `step_inv` brings every statement outside the finding
regions into one of the three. -/
namespace Fs.Meta

/-- the side tables say about `t` exactly what was declared -/
def TabOK (tExt : List (Key × Nat)) (cExt : List (Key × Name × Nat)) (t : Tab) : Prop :=
  lookupT tExt t.key = t.comment ∧ ∀ c ∈ t.cols, ∀ n, c.ty = .text n → lookupC cExt t.key c.name = some n

theorem agrees_iff (w : World) (t : Tab) : t.agrees w = true ↔ TabOK w.tExt w.cExt t := by
  rw [Tab.agrees, TabOK, Bool.and_eq_true, beq_iff_eq, List.all_eq_true]
  refine and_congr_right fun _ => forall₂_congr fun c _ => ?_
  cases c.ty with
  | text n => simp only [beq_iff_eq, Ty.text.injEq, forall_eq']
  | _ => exact iff_of_true rfl nofun

theorem agree_iff (w : World) : w.agree = true ↔ ∀ t ∈ w.tabs, TabOK w.tExt w.cExt t := by
  simp only [World.agree, List.all_eq_true, agrees_iff]

theorem lookupT_cons_ne {e : List (Key × Nat)} {k k' : Key} {c : Nat} (h : k' ≠ k) :
    lookupT ((k, c) :: e) k' = lookupT e k' :=
  (find?_fst_cons (k, c) e k').trans (if_neg (Ne.symm h))

theorem lookupT_cons_self {e : List (Key × Nat)} {k : Key} {c : Nat} : lookupT ((k, c) :: e) k = some c :=
  (find?_fst_cons (k, c) e k).trans (if_pos rfl)

theorem lookupC_append (rows e : List (Key × Name × Nat)) (k : Key) (c : Name) :
    lookupC (rows ++ e) k c = (lookupC rows k c).or (lookupC e k c) := by
  simp only [lookupC, List.find?_append, Option.map_or]

theorem lookupC_eq_none {e : List (Key × Name × Nat)} {k : Key} {c : Name} (h : ∀ r ∈ e, ¬ (r.1 = k ∧ r.2.1 = c)) :
    lookupC e k c = none := by
  simpa only [lookupC, Option.map_eq_none_iff, List.find?_eq_none, Bool.and_eq_true, beq_iff_eq] using h

theorem lookupC_append_other {rows e : List (Key × Name × Nat)} {k : Key} {c : Name}
    (h : ∀ r ∈ rows, ¬ (r.1 = k ∧ r.2.1 = c)) : lookupC (rows ++ e) k c = lookupC e k c := by
  rw [lookupC_append, lookupC_eq_none h, Option.none_or]

theorem mem_textRows {k : Key} {cols : List Col} {r : Key × Name × Nat} (h : r ∈ textRows k cols) :
    r.1 = k ∧ ∃ c ∈ cols, c.name = r.2.1 := by
  simp only [textRows, List.mem_filterMap, Option.map_eq_some_iff] at h
  obtain ⟨c, hc, n, -, rfl⟩ := h
  exact ⟨rfl, c, hc, rfl⟩

theorem lookupC_textRows_other {k k' : Key} {cols : List Col} {c : Name} {e : List (Key × Name × Nat)}
    (h : k' ≠ k ∨ ∀ x ∈ cols, x.name ≠ c) : lookupC (textRows k cols ++ e) k' c = lookupC e k' c :=
  lookupC_append_other fun _ hr hh =>
    have ⟨hk, x, hx, hn⟩ := mem_textRows hr
    h.elim (fun h => h (hh.1.symm.trans hk)) (fun h => h x hx (hn.trans hh.2))

theorem lookupC_textRows {k : Key} {cols : List Col} {e : List (Key × Name × Nat)} (hd : (cols.map (·.name)).Nodup)
    {c : Col} {n : Nat} (hc : c ∈ cols) (hn : c.ty = .text n) : lookupC (textRows k cols ++ e) k c.name = some n := by
  -- the columns in front of `c` have other names, so the row of `c` is the first that matches
  obtain ⟨as, bs, rfl⟩ := List.append_of_mem hc
  rw [List.map_append, List.nodup_append] at hd
  have : textRows k (as ++ c :: bs) = textRows k as ++ (k, c.name, n) :: textRows k bs := by
    simp only [textRows, List.filterMap_append, List.filterMap_cons, Col.textLen, hn, Option.map_some]
  rw [this, List.append_assoc, lookupC_textRows_other (.inr fun x hx => hd.2.2 _ (List.mem_map_of_mem hx) _ List.mem_cons_self)]
  simp [lookupC]

theorem find_some {w : World} {k : Key} {t : Tab} (h : w.find k = some t) : t ∈ w.tabs ∧ t.key = k :=
  ⟨List.mem_of_find?_eq_some h, by simpa using List.find?_some h⟩

theorem find_none_iff {w : World} {k : Key} : w.find k = none ↔ ∀ t ∈ w.tabs, t.key ≠ k := by
  simp only [World.find, List.find?_eq_none, beq_iff_eq, ne_eq]

theorem find_of_uniq {w : World} (hu : w.uniq) {t : Tab} (ht : t ∈ w.tabs) : w.find t.key = some t := by
  -- nothing in front of `t` has its key
  obtain ⟨as, bs, h⟩ := List.append_of_mem ht
  rw [World.uniq, h, List.map_append, List.nodup_append] at hu
  rw [World.find, h, List.find?_eq_some_iff_append]
  exact ⟨beq_self_eq_true _, as, bs, rfl, fun a ha => by
    simpa using hu.2.2 _ (List.mem_map_of_mem ha) _ List.mem_cons_self⟩

theorem mem_remove {w : World} {k : Key} {t : Tab} : t ∈ w.remove k ↔ t ∈ w.tabs ∧ t.key ≠ k := by
  simp [World.remove]

theorem uniq_remove {w : World} (k : Key) (hu : w.uniq) : ((w.remove k).map (·.key)).Nodup :=
  hu.sublist (List.filter_sublist.map _)

/-- invariant: keys are unique and the side tables agree with every live object -/
def Inv (w : World) : Prop := w.uniq ∧ ∀ t ∈ w.tabs, TabOK w.tExt w.cExt t

theorem inv_init : Inv World.init := ⟨List.nodup_nil, fun _ h => nomatch h⟩

theorem tabOK_frame {tExt tExt' : List (Key × Nat)} {cExt cExt' : List (Key × Name × Nat)} {t : Tab}
    (h : TabOK tExt cExt t) (h1 : lookupT tExt' t.key = lookupT tExt t.key)
    (h2 : ∀ c, lookupC cExt' t.key c = lookupC cExt t.key c) : TabOK tExt' cExt' t :=
  ⟨h1 ▸ h.1, fun c hc n hn => h2 c.name ▸ h.2 c hc n hn⟩

theorem inv_drop {w : World} (k : Key) (hinv : Inv w) : Inv { w with tabs := w.remove k } :=
  ⟨uniq_remove k hinv.1, fun t ht => hinv.2 t (mem_remove.1 ht).1⟩

theorem inv_replace {w : World} {k : Key} {t : Tab} {tExt' : List (Key × Nat)} {cExt' : List (Key × Name × Nat)}
    (hinv : Inv w) (hk : t.key = k) (hnew : TabOK tExt' cExt' t)
    (hT : ∀ k', k' ≠ k → lookupT tExt' k' = lookupT w.tExt k')
    (hC : ∀ k' c, k' ≠ k → lookupC cExt' k' c = lookupC w.cExt k' c) :
    Inv ⟨w.remove k ++ [t], tExt', cExt'⟩ := by
  constructor
  · rw [World.uniq, List.map_append, List.map_singleton, List.nodup_append]
    refine ⟨uniq_remove k hinv.1, List.pairwise_singleton _ _, fun a ha b hb => ?_⟩
    obtain ⟨x, hx, rfl⟩ := List.mem_map.mp ha
    rw [List.mem_singleton.mp hb, hk]
    exact (mem_remove.1 hx).2
  · intro x hx
    rcases List.mem_append.mp hx with hx | hx
    · have ⟨hx, hne⟩ := mem_remove.1 hx
      exact tabOK_frame (hinv.2 x hx) (hT _ hne) (fun c => hC _ c hne)
    · exact List.mem_singleton.mp hx ▸ hnew

theorem inv_update {w : World} {k k' : Key} {t : Tab} (f : Tab → Tab) {tExt' : List (Key × Nat)}
    {cExt' : List (Key × Name × Nat)} (hinv : Inv w) (hf : w.find k = some t) (hk : (f t).key = k')
    (hfree : k' = k ∨ w.find k' = none) (hnew : TabOK w.tExt w.cExt t → TabOK tExt' cExt' (f t))
    (hT : ∀ q, q ≠ k' → lookupT tExt' q = lookupT w.tExt q)
    (hC : ∀ q c, q ≠ k' → lookupC cExt' q c = lookupC w.cExt q c) :
    Inv ⟨w.tabs.map fun x => if x.key == k then f x else x, tExt', cExt'⟩ := by
  -- by uniqueness `t` is the only object the map touches, and no other object has the key `k'`
  have hpos : ∀ x ∈ w.tabs, x.key = k → (if x.key == k then f x else x) = f t := fun x hx hxk => by
    rw [if_pos (beq_iff_eq.2 hxk), Option.some.inj ((find_of_uniq hinv.1 hx).symm.trans (hxk ▸ hf))]
  have hneg : ∀ x ∈ w.tabs, x.key ≠ k → (if x.key == k then f x else x) = x ∧ x.key ≠ k' := fun x hx hxk =>
    ⟨if_neg (mt beq_iff_eq.1 hxk), fun e => hfree.elim (fun h => hxk (e.trans h)) (fun h => find_none_iff.1 h x hx e)⟩
  constructor
  · rw [World.uniq, List.Nodup, List.pairwise_map, List.pairwise_map]
    refine (List.pairwise_map.mp hinv.1).imp_of_mem fun {a b} ha hb hab => ?_
    by_cases hak : a.key = k
    · have hbk : b.key ≠ k := fun h => hab (hak.trans h.symm)
      rw [hpos a ha hak, (hneg b hb hbk).1, hk]
      exact (hneg b hb hbk).2.symm
    · by_cases hbk : b.key = k
      · rw [hpos b hb hbk, (hneg a ha hak).1, hk]
        exact (hneg a ha hak).2
      · rw [(hneg a ha hak).1, (hneg b hb hbk).1]
        exact hab
  · intro y hy
    obtain ⟨x, hx, rfl⟩ := List.mem_map.mp hy
    by_cases hxk : x.key = k
    · rw [hpos x hx hxk]
      exact hnew (hinv.2 t (find_some hf).1)
    · have ⟨he, hne⟩ := hneg x hx hxk
      rw [he]
      exact tabOK_frame (hinv.2 x hx) (hT _ hne) (fun c => hC _ c hne)

/-- a decision of `step` taken apart: both branches keep `Inv` -/
theorem inv_ite {c : Prop} [Decidable c] {a b : Bool × World} (ha : c → Inv a.2) (hb : ¬c → Inv b.2) :
    Inv (if c then a else b).2 := by
  split
  · exact ha ‹_›
  · exact hb ‹_›

theorem ne_text_of_hasText_false {cols : List Col} (h : hasText cols = false) : ∀ c ∈ cols, ∀ n, c.ty ≠ .text n := by
  intro c hc n hn
  simp only [hasText, List.any_eq_false] at h
  exact h c hc (by simp [hn, Ty.isText])

/-- the first hypothesis is the condition as `region` tests it: an object with nothing to lose -/
theorem tabOK_plain {tExt : List (Key × Nat)} {cExt : List (Key × Name × Nat)} {t : Tab}
    (h : (hasText t.cols || t.comment.isSome) = false) (hstale : lookupT tExt t.key = none) : TabOK tExt cExt t := by
  rw [Bool.or_eq_false_iff, Option.isSome_eq_false_iff, Option.isNone_iff_eq_none] at h
  exact ⟨hstale.trans h.2.symm, fun c hc n hn => absurd hn (ne_text_of_hasText_false h.1 c hc n)⟩

/-- the `if` shared by the regions of CTAS, CLONE, CREATE VIEW and RENAME TABLE (`a`: the source has something to lose) -/
theorem region_copy_none {a : Bool} {f : Finding} {e : List (Key × Nat)} {k : Key}
    (h : (if a = true then some f else if (lookupT e k).isSome = true then some .staleComment else none) = none) :
    a = false ∧ lookupT e k = none := by
  rw [ite_some_eq_none, ite_some_eq_none] at h
  exact ⟨Bool.eq_false_iff.2 h.1, Option.not_isSome_iff_eq_none.1 h.2.1⟩

theorem step_inv (w : World) (op : Op) (hinv : Inv w) (hreg : region w op = none) : Inv (step w op).2 := by
  cases op with
  | createTable k cols comment rep pk =>
    simp only [step]
    refine inv_ite (fun _ => hinv) fun hcond => ?_
    -- not refused, so ((there are columns ∧ their names are distinct) ∧ `k` may be created) ∧ the key column exists
    simp only [Bool.or_eq_true, Bool.not_eq_true', not_or, Bool.not_eq_true, Bool.not_eq_false] at hcond
    have hd : (cols.map (·.name)).Nodup := of_decide_eq_true hcond.1.1.2
    refine inv_replace hinv rfl ⟨?_, fun c hc n hn => ?_⟩ (fun k' hne => ?_) (fun k' c hne => ?_)
    · cases comment with
      | some c => exact lookupT_cons_self
      -- `hreg` is the `if` of `region` with `comment.isNone` reduced away
      | none => exact Option.not_isSome_iff_eq_none.1 (ite_some_eq_none.1 hreg).1
    · exact lookupC_textRows hd hc hn
    · cases comment with
      | some c => exact lookupT_cons_ne hne
      | none => rfl
    · exact lookupC_textRows_other (.inl hne)
  | ctas k src sel rep | createView k src sel rep =>
    rw [step]
    cases hs : w.find src with
    | none => exact hinv
    | some s =>
      dsimp only
      cases hsel : selectCols s.cols sel with
      | none => exact hinv
      | some cols =>
        simp only [region, hs, hsel, Option.getD_some] at hreg
        have ⟨ht, hstale⟩ := region_copy_none hreg
        -- CREATE VIEW's further refusal (`k == src`) sits in the same `if`; the new object has no comment, hence `or_false`
        exact inv_ite (fun _ => hinv) fun _ => inv_replace hinv rfl
          (tabOK_plain ((Bool.or_false _).trans ht) hstale) (fun _ _ => rfl) (fun _ _ _ => rfl)
  | clone k src rep =>
    rw [step]
    cases hs : w.find src with
    | none => exact hinv
    | some s =>
      simp only [region, hs] at hreg
      have ⟨ha, hstale⟩ := region_copy_none hreg
      exact inv_ite (fun _ => hinv) fun _ => inv_replace hinv rfl
        (tabOK_plain ha hstale) (fun _ _ => rfl) (fun _ _ _ => rfl)
  | addCol k c =>
    rw [step]
    cases hf : w.find k with
    | none => exact hinv
    | some t =>
      refine inv_ite (fun _ => hinv) fun hcond => ?_
      obtain ⟨-, hfresh⟩ : t.isView = false ∧ ∀ x ∈ t.cols, x.name ≠ c.name := by
        simpa only [Bool.or_eq_true, not_or, Bool.not_eq_true, List.any_eq_false, beq_iff_eq] using hcond
      obtain ⟨-, rfl⟩ := find_some hf
      refine inv_update (fun x => { x with cols := x.cols ++ [c] }) hinv hf rfl (.inl rfl)
        (fun hok => ⟨hok.1, fun c' hc' n hn => ?_⟩) (fun _ _ => rfl) (fun _ _ hne => lookupC_textRows_other (.inl hne))
      rcases List.mem_append.mp hc' with hc' | hc'
      · rw [lookupC_textRows_other (.inr fun y hy e => hfresh c' hc' (by rw [← e, List.mem_singleton.mp hy]))]
        exact hok.2 c' hc' n hn
      · exact lookupC_textRows (cols := [c]) (List.pairwise_singleton _ _) hc' hn
  | dropCol k n =>
    rw [step]
    cases hf : w.find k with
    | none => exact hinv
    | some t =>
      refine inv_ite (fun _ => hinv) fun _ => ?_
      obtain ⟨-, rfl⟩ := find_some hf
      exact inv_update (fun x => { x with cols := x.cols.filter (·.name != n) }) hinv hf rfl (.inl rfl)
        (fun hok => ⟨hok.1, fun c hc => hok.2 c (List.mem_filter.mp hc).1⟩) (fun _ _ => rfl) (fun _ _ _ => rfl)
  | renameCol k a b =>
    rw [step]
    cases hf : w.find k with
    | none => exact hinv
    | some t =>
      refine inv_ite (fun _ => hinv) fun _ => inv_ite (fun _ => hinv) fun hab => inv_ite (fun _ => hinv) fun _ => ?_
      rw [region, hf, ite_some_eq_none, Bool.and_eq_true, not_and, Bool.not_eq_true, List.any_eq_false] at hreg
      have hnt : ∀ c ∈ t.cols, ¬(c.name == a && c.ty.isText) = true := hreg.1 (by simpa [bne] using hab)
      obtain ⟨-, rfl⟩ := find_some hf
      refine inv_update (fun x => { x with cols := x.cols.map fun c => if c.name == a then { c with name := b } else c })
        hinv hf rfl (.inl rfl) (fun hok => ⟨hok.1, fun c' hc' n hn => ?_⟩) (fun _ _ => rfl) (fun _ _ _ => rfl)
      -- renaming keeps the type, and a text column is not the renamed one
      obtain ⟨c, hc, rfl⟩ := List.mem_map.mp hc'
      have hty : c.ty = .text n := by split at hn <;> exact hn
      have hca : c.name ≠ a := fun e => hnt c hc (by simp [e, hty, Ty.isText])
      rw [if_neg (mt beq_iff_eq.1 hca)]
      exact hok.2 c hc n hty
  | renameTable k n =>
    rw [step]
    cases hf : w.find k with
    | none => exact hinv
    | some t =>
      refine inv_ite (fun _ => hinv) fun _ => inv_ite (fun _ => hinv) fun hnk => inv_ite (fun _ => hinv) fun hfree => ?_
      simp only [region, hf, if_neg hnk] at hreg
      have ⟨ha, hstale⟩ := region_copy_none hreg
      exact inv_update (fun x => { x with key := (k.1, k.2.1, n) }) hinv hf rfl (.inr (by simpa using hfree))
        (fun _ => tabOK_plain ha hstale) (fun _ _ => rfl) (fun _ _ _ => rfl)
  | setComment k c =>
    rw [step]
    -- the condition `key == k && !isView` of the model, in the form `inv_update` speaks of
    have hfun : (fun x : Tab => if (x.key == k && !x.isView) = true then { x with comment := some c } else x)
        = fun x => if x.key == k then (if !x.isView then { x with comment := some c } else x) else x := by
      funext x
      cases (x.key == k) <;> rfl
    rw [hfun]
    simp only [region] at hreg
    cases hf : w.find k with
    | none => simp [hf] at hreg
    | some t =>
      have htv : t.isView = false := by simpa [hf] using hreg
      obtain ⟨-, rfl⟩ := find_some hf
      refine inv_update (fun x => if !x.isView then { x with comment := some c } else x) hinv hf ?_ (.inl rfl) ?_
        (fun q hne => lookupT_cons_ne hne) (fun _ _ _ => rfl)
      · rw [htv]; rfl
      · rw [htv]
        exact fun hok => ⟨lookupT_cons_self, hok.2⟩
  | dropTable k =>
    rw [step]
    cases w.find k with
    | none => exact hinv
    | some t => exact inv_ite (fun _ => hinv) fun _ => inv_drop k hinv
  | dropView k =>
    rw [step]
    cases w.find k with
    | none => exact hinv
    | some t => exact inv_ite (fun _ => inv_drop k hinv) fun _ => hinv
  | nop => exact hinv

theorem run_inv (w : World) (ops : List Op) (hinv : Inv w) (hc : clean w ops = true) : Inv (run w ops) := by
  induction ops generalizing w with
  | nil => exact hinv
  | cons o os ih =>
    simp only [clean, Bool.and_eq_true, Option.isNone_iff_eq_none] at hc
    exact ih _ (step_inv w o hinv hc.1) hc.2

theorem surfaces_of_inv (w : World) (hinv : Inv w) :
    (∀ k, describeI w k = describeS w k) ∧ (∀ k, infoColumnsI w k = infoColumnsS w k) ∧
    (∀ d s, infoTablesI w d s = infoTablesS w d s) := by
  refine ⟨fun k => Option.map_congr fun t hf => ?_, fun k => Option.map_congr fun t hf => ?_, fun d s => ?_⟩
  · obtain ⟨ht, rfl⟩ := find_some hf
    refine (List.map_congr_left fun c hc => ?_).trans (List.map_id _)
    cases c with | mk name ty =>
    cases ty with
    | text n => exact congrArg (fun l => Col.mk name (.text (l.getD defaultLen))) ((hinv.2 t ht).2 _ hc n rfl)
    | _ => rfl
  · obtain ⟨ht, rfl⟩ := find_some hf
    refine List.map_congr_left fun c hc => ?_
    cases c with | mk name ty =>
    cases ty with
    | text n => exact congrArg (Prod.mk name) ((hinv.2 t ht).2 _ hc n rfl)
    | _ => rfl
  · exact List.map_congr_left fun t ht => by rw [(hinv.2 t (List.mem_filter.mp ht).1).1]

end Fs.Meta
