import Fs.Proofs.JsonPipeline
/-! C11: the rewritten tree prints unambiguously under DuckDB's operator table. -/
namespace Fs.Json

theorem precOK_nav (n : Nav) : PrecOK n.toE = true := by
  induction n with
  | col => rfl
  | path n p ih => exact (Bool.and_eq_true _ _).mpr ⟨ih, decide_eq_true (Nat.zero_le _ : precArrow ≤ _)⟩

theorem nav_level_generic (n : Nav) : precGeneric ≤ n.toE.level false n.toE.isJx := by
  cases n with
  | col => decide
  | path n p => exact (by decide : precGeneric ≤ precPrimary)

theorem precOK_navout (n : Nav) : PrecOK n.out = true := by
  cases n with
  | col => rfl
  | path n p => exact precOK_nav (.path n p)

theorem navout_level (n : Nav) (w : Bool) : n.out.level false w = precPrimary := by
  cases n <;> rfl

theorem precOK_accout (a : Acc) : PrecOK a.out = true := by
  cases a with
  | nav n => exact precOK_navout n
  | brk n i =>
    simp only [Acc.out]
    split
    · exact (Bool.and_eq_true _ _).mpr ⟨precOK_nav n, decide_eq_true (Nat.zero_le _ : precArrow ≤ _)⟩
    · exact (Bool.and_eq_true _ _).mpr ⟨precOK_navout n, decide_eq_true (Nat.le_of_eq (navout_level n _).symm)⟩

theorem accout_level (a : Acc) (w : Bool) : a.out.level false w = precPrimary := by
  cases a with
  | nav n => exact navout_level n w
  | brk n i => simp only [Acc.out]; split <;> rfl

theorem precOK_outScalar (a : Acc) : PrecOK a.outScalar = true := by
  rcases a with (_ | ⟨n, p⟩) | ⟨n, i⟩
  · rfl
  · exact (Bool.and_eq_true _ _).mpr ⟨precOK_nav n, decide_eq_true (nav_level_generic n)⟩
  · exact precOK_accout (.brk n i)

theorem acc_src_level (a : Acc) (w : Bool) : a.toE.level true w = precPrimary := by
  cases a with
  | nav n => cases n <;> rfl
  | brk n i => rfl

theorem precOK_use (u : Use) : PrecOK (pipeline u.toE) = true := by
  cases u with
  | bare a => simp only [Use.toE, pipeline_bare]; exact precOK_accout a
  | cast a t => simp only [Use.toE, pipeline_cast]; exact precOK_outScalar a
  | upper a => simp only [Use.toE, pipeline_upper]; exact precOK_outScalar a
  | lower a => simp only [Use.toE, pipeline_lower]; exact precOK_outScalar a
  | trim a => simp only [Use.toE, pipeline_trim, pipeline_cast]; exact precOK_outScalar a
  | arraySize a => simp only [Use.toE, pipeline_arraySize]; exact precOK_accout a
  | isNull a =>
    simp only [Use.toE, pipeline_isNull]
    exact (Bool.and_eq_true _ _).mpr ⟨precOK_accout a, by rw [accout_level]; decide⟩

theorem level_use (u : Use) (w w' : Bool) : (pipeline u.toE).level false w = u.toE.level true w' := by
  cases u with
  | bare a => simp only [Use.toE, pipeline_bare, accout_level, acc_src_level]
  | cast a t => simp only [Use.toE, pipeline_cast]; rfl
  | upper a => simp only [Use.toE, pipeline_upper]; rfl
  | lower a => simp only [Use.toE, pipeline_lower]; rfl
  | trim a => simp only [Use.toE, pipeline_trim]; rfl
  | arraySize a => simp only [Use.toE, pipeline_arraySize]; rfl
  | isNull a => simp only [Use.toE, pipeline_isNull]; rfl

theorem level_ctx (c : Ctx) (w w' : Bool) : (pipeline c.toE).level false w = c.toE.level true w' := by
  cases c with
  | use u => exact level_use u w w'
  | lit l => simp only [Ctx.toE, pipeline_lit]; rfl
  | bin o a b => simp only [Ctx.toE, pipeline_bin]; rfl
  | not a => simp only [Ctx.toE, pipeline_not]; rfl
  | paren a => simp only [Ctx.toE, pipeline_paren]; rfl

end Fs.Json
