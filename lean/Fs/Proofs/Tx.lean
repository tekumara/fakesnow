import Fs.Model.Tx
import Fs.Proofs.Basic
/-! Lemmas for C13 (`Fs/Props/C13.lean`).  `loc` is a flat table, so what is needed of it is read off once, by cases, at
the start.  Everything about histories then rests on three facts: a connection's transaction state is moved by its own
statements only (`run_tx_inv`), a connection inside an open transaction can be deleted from a history without anybody else
noticing (`run_forget`), and a pinned connection does not look at the committed store (`run_sealed`).  Layer B at the end:
on `World.of sys b` one event of the real plumbing is one step of the bookkeeping `Book` (`world_step_of`). -/
namespace Fs.Tx

def Tx.isIdle : Tx → Bool
  | .idle => true
  | _ => false

/-- pending writes of an open, non-aborted transaction -/
def Tx.pend : Tx → Option (List W)
  | .fresh => some []
  | .pinned _ ws => some ws
  | _ => none

/-- the connection reads from its own transaction state only (pinned or aborted) -/
def Tx.sealed : Tx → Bool
  | .pinned _ _ => true
  | .aborted => true
  | _ => false

/-- what a statement adds to the write list of an open transaction: `writesOf`, statement by statement -/
def Stmt.writes : Stmt → List W
  | .dml t op => [⟨t, op⟩]
  | _ => []

theorem loc_open (m : Mode) {com : Store} {t : Tx} {st : Stmt} (ht : t.isIdle = false) (hst : st.endsTx = false) :
    (loc m com t st).1 = com ∧ (loc m com t st).2.1.isIdle = false := by
  cases t <;> cases ht <;> cases st <;> cases hst <;> cases m <;> exact ⟨rfl, rfl⟩

/-- COMMIT publishes the pending writes – none if the transaction is aborted –, ROLLBACK nothing -/
theorem loc_end (m : Mode) (com : Store) {t : Tx} {st : Stmt} (ht : t.isIdle = false) (hst : st.endsTx = true) :
    (loc m com t st).1 = com.apps (if st = .commit then t.pend.getD [] else []) ∧ (loc m com t st).2.1 = .idle := by
  cases st <;> cases hst <;> cases t <;> cases ht <;> exact ⟨rfl, rfl⟩

theorem loc_sealed (m : Mode) (com com' : Store) {t : Tx} {st : Stmt} (ht : t.sealed = true) (hst : st.endsTx = false) :
    (loc m com t st).2 = (loc m com' t st).2 ∧ (loc m com t st).2.1.sealed = true := by
  cases t <;> cases ht <;> cases st <;> cases hst <;> cases m <;> exact ⟨rfl, rfl⟩

theorem Store.apps_append (s : Store) (a b : List W) : s.apps (a ++ b) = (s.apps a).apps b := by
  simp [Store.apps, List.foldl_append]

theorem loc_pinned (m : Mode) {com sn : Store} {ws : List W} {st : Stmt}
    (hst : st.endsTx = false) (ha : aborts m st = false) :
    (loc m com (.pinned sn ws) st).2.1 = .pinned sn (ws ++ st.writes) := by
  cases st with
  | dml => cases m <;> rfl
  | _ => cases hst <;> cases m <;> cases ha <;> exact congrArg _ (List.append_nil _).symm

theorem loc_pend (m : Mode) {com : Store} {t : Tx} {st : Stmt} {acc : List W}
    (ht : t.pend = some acc) (hst : st.endsTx = false) (ha : aborts m st = false) :
    (loc m com t st).2.1.pend = some (acc ++ st.writes) := by
  cases t with
  | pinned sn ws => cases ht; rw [loc_pinned m hst ha]; rfl
  | fresh => cases ht; cases st <;> cases hst <;> cases m <;> cases ha <;> rfl
  | _ => cases ht

/-- `h` is what `envOk` asks of every step -/
theorem loc_env {com : Store} {t : Tx} {st : Stmt}
    (h : (match t with | .idle => true | .aborted => false | _ => !aborts .duck st) = true) :
    loc .duck com t st = loc .ideal com t st := by
  cases t <;> cases st <;> cases h <;> rfl

theorem Sys.setTx_com (s : Sys) (c : Nat) (t : Tx) (k : Store) : (s.setTx c t k).com = k := rfl

theorem Sys.setTx_tx_self (s : Sys) (c : Nat) (t : Tx) (k : Store) : (s.setTx c t k).tx c = t := if_pos rfl

theorem Sys.setTx_tx_other {c d : Nat} (h : d ≠ c) (s : Sys) (t : Tx) (k : Store) : (s.setTx c t k).tx d = s.tx d :=
  if_neg h

theorem Sys.setTx_eq {s : Sys} {c : Nat} {t : Tx} {k : Store} (h : s.tx c = t) : s.setTx c t k = { s with com := k } :=
  h ▸ congrArg (Sys.mk k) (update_self s.tx c)

theorem Sys.setTx_setTx (s : Sys) (c : Nat) (t t' : Tx) (k k' : Store) :
    (s.setTx c t k).setTx c t' k' = s.setTx c t' k' :=
  congrArg (Sys.mk k') (update_update s.tx c t t')

/-- the store written first (`k`) is overwritten, hence arbitrary -/
theorem Sys.setTx_comm {c d : Nat} (h : d ≠ c) (s : Sys) (t t' : Tx) (k k' : Store) :
    (s.setTx c t k).setTx d t' k' = (s.setTx d t' k').setTx c t k' :=
  congrArg (Sys.mk k') (update_comm (Ne.symm h) s.tx t t')

theorem step_tx_self (m : Mode) (s : Sys) (c : Nat) (st : Stmt) :
    (step m s c st).1.tx c = (loc m s.com (s.tx c) st).2.1 := Sys.setTx_tx_self ..

theorem step_tx_other {c d : Nat} (h : d ≠ c) (m : Mode) (s : Sys) (st : Stmt) :
    (step m s d st).1.tx c = s.tx c := Sys.setTx_tx_other (Ne.symm h) ..

theorem step_com (m : Mode) (s : Sys) (c : Nat) (st : Stmt) :
    (step m s c st).1.com = (loc m s.com (s.tx c) st).1 := rfl

theorem step_obs (m : Mode) (s : Sys) (c : Nat) (st : Stmt) :
    (step m s c st).2 = (loc m s.com (s.tx c) st).2.2 := rfl

theorem step_idle (m : Mode) {s : Sys} {c : Nat} (st : Stmt) (hidle : s.tx c = .idle) (hst : st ≠ .begin) :
    (step m s c st).1 = { s with com := (loc m s.com .idle st).1 } := by
  rw [step, hidle]
  refine Sys.setTx_eq (hidle.trans ?_)
  cases st with
  | begin => exact absurd rfl hst
  | _ => rfl

theorem step_begin (m : Mode) {s : Sys} {c : Nat} (hidle : s.tx c = .idle) :
    (step m s c .begin).1 = s.setTx c .fresh s.com := by
  rw [step, hidle]; rfl

/-- `s` with `c`'s transaction forgotten: the state a history without `c`'s statements runs from and is compared with -/
def Sys.forget (s : Sys) (c : Nat) : Sys := s.setTx c .idle s.com

theorem step_forget_begin (m : Mode) {s : Sys} {c : Nat} (hidle : s.tx c = .idle) : (step m s c .begin).1.forget c = s := by
  rw [step_begin m hidle]
  exact (Sys.setTx_setTx ..).trans (Sys.setTx_eq hidle)

theorem step_forget_self (m : Mode) {s : Sys} {c : Nat} {st : Stmt}
    (ht : (s.tx c).isIdle = false) (hst : st.endsTx = false) : (step m s c st).1.forget c = s.forget c := by
  simp only [step, Sys.forget, Sys.setTx_com, Sys.setTx_setTx, (loc_open m ht hst).1]

theorem step_end (m : Mode) {s : Sys} {c : Nat} {st : Stmt} (ht : (s.tx c).isIdle = false) (hst : st.endsTx = true) :
    (step m s c st).1 =
      { s.forget c with com := s.com.apps (if st = .commit then (s.tx c).pend.getD [] else []) } := by
  obtain ⟨e1, e2⟩ := loc_end m s.com ht hst
  rw [step, e1, e2]; rfl

theorem step_forget_other {c d : Nat} (h : d ≠ c) (m : Mode) (s : Sys) (st : Stmt) :
    step m (s.forget c) d st = ((step m s d st).1.forget c, (step m s d st).2) := by
  simp only [step, Sys.forget, Sys.setTx_com, Sys.setTx_tx_other h,
    Sys.setTx_comm h _ _ _ s.com]

theorem run_cons (m : Mode) (s : Sys) (c : Nat) (st : Stmt) (hist : List (Nat × Stmt)) :
    run m s ((c, st) :: hist) = ((run m (step m s c st).1 hist).1, (step m s c st).2 :: (run m (step m s c st).1 hist).2) := rfl

theorem run_append (m : Mode) (s : Sys) (a b : List (Nat × Stmt)) :
    run m s (a ++ b) = ((run m (run m s a).1 b).1, (run m s a).2 ++ (run m (run m s a).1 b).2) := by
  induction a generalizing s with
  | nil => rfl
  | cons x xs ih => simp only [List.cons_append, run, ih]

theorem run_length (m : Mode) (s : Sys) (hist : List (Nat × Stmt)) : (run m s hist).2.length = hist.length := by
  induction hist generalizing s with
  | nil => rfl
  | cons x xs ih => simp only [run, List.length_cons, ih]

/-- observations of the events not issued by `c` -/
def othersObs (c : Nat) : List (Nat × Stmt) → List Obs → List Obs
  | (d, _) :: h, o :: os => if d = c then othersObs c h os else o :: othersObs c h os
  | _, _ => []

/-- observations of the events issued by `c` -/
def ownObs (c : Nat) : List (Nat × Stmt) → List Obs → List Obs
  | (d, _) :: h, o :: os => if d = c then o :: ownObs c h os else ownObs c h os
  | _, _ => []

theorem othersObs_append (c : Nat) {a : List (Nat × Stmt)} {oa : List Obs} (h : oa.length = a.length)
    (b : List (Nat × Stmt)) (ob : List Obs) : othersObs c (a ++ b) (oa ++ ob) = othersObs c a oa ++ othersObs c b ob := by
  induction a generalizing oa with
  | nil => cases oa with
    | nil => rfl
    | cons => cases h
  | cons x xs ih =>
    cases oa with
    | nil => cases h
    | cons o os =>
      simp only [List.cons_append, othersObs, ih (Nat.succ.inj h)]
      split <;> rfl

theorem writesOf_cons (c d : Nat) (st : Stmt) (hist : List (Nat × Stmt)) :
    writesOf c ((d, st) :: hist) = (if d = c then st.writes else []) ++ writesOf c hist := by
  by_cases hd : d = c
  · subst hd; simp only [writesOf, List.filterMap_cons, if_pos]; cases st <;> rfl
  · simp only [writesOf, List.filterMap_cons, if_neg hd, List.nil_append]

/-- The invariant rule for a connection's own transaction state across the other connections' events: only `c`'s
    statements move `s.tx c`, so `I`, indexed by the writes `c` has issued so far, need only be checked against `loc`. -/
theorem run_tx_inv (m : Mode) (c : Nat) (I : List W → Tx → Prop) (ok : Stmt → Prop)
    (hI : ∀ com acc t st, I acc t → ok st → I (acc ++ st.writes) (loc m com t st).2.1) :
    ∀ (blk : List (Nat × Stmt)) (s : Sys) (acc : List W), I acc (s.tx c) → (∀ e ∈ blk, e.1 = c → ok e.2) →
      I (acc ++ writesOf c blk) ((run m s blk).1.tx c) := by
  intro blk
  induction blk with
  | nil => intro s acc h _; rw [writesOf, List.filterMap_nil, List.append_nil]; exact h
  | cons x xs ih =>
    obtain ⟨d, st⟩ := x
    intro s acc h hb
    obtain ⟨hst, hxs⟩ := List.forall_mem_cons.1 hb
    rw [writesOf_cons, run_cons]
    by_cases hd : d = c
    · rw [if_pos hd, ← List.append_assoc]
      subst hd
      exact ih _ _ (by rw [step_tx_self]; exact hI _ _ _ _ h (hst rfl)) hxs
    · rw [if_neg hd, List.nil_append]
      exact ih _ _ (by rw [step_tx_other hd]; exact h) hxs

theorem run_tx_other (m : Mode) (c : Nat) (hist : List (Nat × Stmt)) (s : Sys) (hc : ∀ e ∈ hist, e.1 ≠ c) :
    (run m s hist).1.tx c = s.tx c :=
  run_tx_inv m c (fun _ t => t = s.tx c) (fun _ => False) (fun _ _ _ _ _ => False.elim) hist s [] rfl hc

theorem run_forget (m : Mode) (c : Nat) (blk : List (Nat × Stmt)) :
    ∀ s : Sys, (s.tx c).isIdle = false → (∀ e ∈ blk, e.1 = c → e.2.endsTx = false) →
      (run m (s.forget c) (blk.filter fun e => e.1 != c)).1 = (run m s blk).1.forget c ∧
      (run m (s.forget c) (blk.filter fun e => e.1 != c)).2 = othersObs c blk (run m s blk).2 := by
  induction blk with
  | nil => intro s _ _; exact ⟨rfl, rfl⟩
  | cons x xs ih =>
    obtain ⟨d, st⟩ := x
    intro s ht hb
    obtain ⟨hst, hxs⟩ := List.forall_mem_cons.1 hb
    by_cases hd : d = c
    · subst hd
      have := ih (step m s d st).1 (by rw [step_tx_self]; exact (loc_open m ht (hst rfl)).2) hxs
      rw [step_forget_self m ht (hst rfl)] at this
      rw [List.filter_cons_of_neg (by simp), run_cons, othersObs, if_pos rfl]
      exact this
    · have := ih (step m s d st).1 (by rw [step_tx_other hd]; exact ht) hxs
      rw [List.filter_cons_of_pos (by simpa using hd), run_cons, run_cons, othersObs, if_neg hd, step_forget_other hd]
      exact ⟨this.1, congrArg _ this.2⟩

/-- `BEGIN; …; COMMIT` or `…; ROLLBACK` of `c`, interleaved with anything, as the others see it: the history without `c`'s
    statements, plus at COMMIT the writes pending at that moment (none if the transaction was aborted on the way) -/
theorem run_tx_block (m : Mode) (s : Sys) (c : Nat) (blk : List (Nat × Stmt)) (fin : Stmt)
    (hidle : s.tx c = .idle) (hin : ∀ e ∈ blk, e.1 = c → e.2.endsTx = false) (hfin : fin.endsTx = true) :
    let hist := (c, .begin) :: blk ++ [(c, fin)]
    let r₀ := run m s (blk.filter fun e => e.1 != c)
    let t := (run m (step m s c .begin).1 blk).1.tx c
    (run m s hist).1 = { r₀.1 with com := r₀.1.com.apps (if fin = .commit then t.pend.getD [] else []) } ∧
    othersObs c hist (run m s hist).2 = r₀.2 := by
  have hopen : ((step m s c .begin).1.tx c).isIdle = false := by rw [step_tx_self, hidle]; rfl
  obtain ⟨h1, h2⟩ := run_forget m c blk _ hopen hin
  have h3 := run_tx_inv m c (fun _ t => t.isIdle = false) (fun st => st.endsTx = false)
    (fun _ _ _ _ h ok => (loc_open m h ok).2) blk _ [] hopen hin
  rw [step_forget_begin m hidle] at h1 h2
  -- `h1`, `h2` rewrite `r₀` as the run with `c`'s statements with `c` forgotten; the state half is then `step_end` at `fin`
  simp only [List.cons_append, run_append, run, h1, h2]
  constructor
  · exact step_end m h3 hfin
  · rw [othersObs, if_pos rfl, othersObs_append c (run_length ..), othersObs, if_pos rfl]
    exact List.append_nil _

/-- `s1` runs the whole history, `s0` only `c`'s statements: they drift apart, and need agree on `c`'s state only -/
theorem run_sealed (m : Mode) (c : Nat) (blk : List (Nat × Stmt)) :
    ∀ (s1 s0 : Sys), s1.tx c = s0.tx c → (s1.tx c).sealed = true → (∀ e ∈ blk, e.1 = c → e.2.endsTx = false) →
      ownObs c blk (run m s1 blk).2 = (run m s0 (blk.filter fun e => e.1 == c)).2 := by
  induction blk with
  | nil => intro _ _ _ _ _; rfl
  | cons x xs ih =>
    obtain ⟨d, st⟩ := x
    intro s1 s0 h hs hb
    obtain ⟨hst, hxs⟩ := List.forall_mem_cons.1 hb
    rw [run_cons, ownObs]
    by_cases hd : d = c
    · subst hd
      obtain ⟨hl, hl'⟩ := loc_sealed m s1.com s0.com hs (hst rfl)
      rw [List.filter_cons_of_pos (by simp), run_cons, if_pos rfl, step_obs, step_obs, ← h, hl]
      refine congrArg _ (ih _ _ ?_ ?_ hxs)
      · rw [step_tx_self, step_tx_self, ← h, hl]
      · rw [step_tx_self]; exact hl'
    · rw [List.filter_cons_of_neg (by simpa using hd), if_neg hd]
      have e1 := step_tx_other hd m s1 st
      exact ih _ _ (e1.trans h) (by rw [e1]; exact hs) hxs

/-- the state of the plumbing after the events `b` has read: fake connection `i` owns engine connection `i`, and every
    cursor uses the engine connection of the connection that created it -/
def World.of (sys : Sys) (b : Book) : World := ⟨sys, List.range b.nconns, b.cursConn.map fun c => (c, c), b.nconns⟩

theorem World.of_init (com : Store) : World.of (Sys.init com) ⟨0, []⟩ = World.init com := rfl

theorem world_step_of (m : Mode) (sys : Sys) (b : Book) (e : Ev) :
    World.step false m (World.of sys b) e =
      match (b.step e).2 with
      | none => (World.of sys (b.step e).1, none)
      | some (c, st) => (World.of (step m sys c st).1 (b.step e).1, some (step m sys c st).2) := by
  -- in `World.of`, `conns = range nconns`, so `conns[c]? = some c` exactly when `c < nconns` (the test `Book.step` makes),
  -- and cursor `k` is `(c, c)` for `c = cursConn[k]`
  cases e with
  | connect named => simp [World.step, Book.step, World.of, List.range_succ]
  | blockExit c exc => rfl
  | exec k st => cases hk : b.cursConn[k]? <;> simp [World.step, Book.step, World.of, hk]
  | cursor c _ | connCommit c | connRollback c => by_cases h : c < b.nconns <;> simp [World.step, Book.step, World.of, h]

theorem world_run_of (m : Mode) (evs : List Ev) : ∀ (sys : Sys) (b : Book),
    (World.run false m (World.of sys b) evs).1.sys = (run m sys (b.trace evs)).1 ∧
    (World.run false m (World.of sys b) evs).2.filterMap id = (run m sys (b.trace evs)).2 := by
  induction evs with
  | nil => intro _ _; exact ⟨rfl, rfl⟩
  | cons e es ih =>
    intro sys b
    rw [World.run, world_step_of, Book.trace]
    cases (b.step e).2 with
    | none => exact ih _ _
    | some x => simpa [run] using ih _ _

end Fs.Tx
