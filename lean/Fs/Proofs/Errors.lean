import Fs.Model.ErrScen
/-! Lemmas for C07: what `execCall`, `execute`, `runOps`, `runExecutes` do phase by phase, and the few finite facts about the
scenario table (the enumerations `….all` are complete, `mapExc ∘ duckClass`, `reaction` outside the finding regions). -/
namespace Fs.Err

section
variable {D Q : Type} (eng : D → Q → Except DuckExc D) (w : World D) (c : Call Q)

theorem execCall_noDatabase (h : c.noDatabase = true ∧ ¬ w.sess.databaseSet = true) :
    execCall eng w c = (w, .programming c90105) := by
  unfold execCall
  rw [if_pos h]

theorem execCall_noSchema (hdb : ¬ (c.noDatabase = true ∧ ¬ w.sess.databaseSet = true))
    (h : c.noSchema = true ∧ ¬ w.sess.schemaSet = true) : execCall eng w c = (w, .programming c90106) := by
  unfold execCall
  rw [if_neg hdb, if_pos h]

/-- `.getD .ok`: `mapExc e = none` is the swallowed COMMIT / ROLLBACK outside a transaction, which counts as a success -/
theorem execCall_error (hdb : ¬ (c.noDatabase = true ∧ ¬ w.sess.databaseSet = true))
    (hsc : ¬ (c.noSchema = true ∧ ¬ w.sess.schemaSet = true)) {e} (he : eng w.duck c.sql = .error e) :
    execCall eng w c = (w, (mapExc e).getD .ok) := by
  unfold execCall
  rw [if_neg hdb, if_neg hsc, he]
  dsimp only
  cases mapExc e <;> rfl

theorem execCall_ok (hdb : ¬ (c.noDatabase = true ∧ ¬ w.sess.databaseSet = true))
    (hsc : ¬ (c.noSchema = true ∧ ¬ w.sess.schemaSet = true)) {d} (he : eng w.duck c.sql = .ok d) :
    execCall eng w c = ({ w with duck := (runFollowups eng d c.followups).1, sess := c.ctx.apply w.sess },
      (runFollowups eng d c.followups).2.elim .ok .rawDuck) := by
  unfold execCall
  rw [if_neg hdb, if_neg hsc, he]
  dsimp only
  rcases runFollowups eng d c.followups with ⟨d', _ | e⟩ <;> rfl

/-- the closed-connection guard of `description` is DuckDB's ConnectionException, met after the pre-checks -/
theorem descriptionOutcome_closed (hdb : ¬ (c.noDatabase = true ∧ ¬ w.sess.databaseSet = true))
    (hsc : ¬ (c.noSchema = true ∧ ¬ w.sess.schemaSet = true)) (hcl : w.closed = true) :
    descriptionOutcome eng w c = .database c250002 := by
  unfold descriptionOutcome
  rw [execCall_error _ w c hdb hsc (if_pos hcl)]
  rfl

theorem descriptionOutcome_open (hcl : w.closed = false) : descriptionOutcome eng w c = (execCall eng w c).2 := by
  rw [descriptionOutcome, hcl]
  rfl

theorem execCall_cases :
    (c.noDatabase = true ∧ ¬ w.sess.databaseSet = true) ∧ execCall eng w c = (w, .programming c90105) ∨
    (c.noSchema = true ∧ ¬ w.sess.schemaSet = true) ∧ execCall eng w c = (w, .programming c90106) ∨
    (∃ e, eng w.duck c.sql = .error e ∧ execCall eng w c = (w, (mapExc e).getD .ok)) ∨
    ∃ d, eng w.duck c.sql = .ok d ∧
      execCall eng w c = ({ w with duck := (runFollowups eng d c.followups).1, sess := c.ctx.apply w.sess },
        (runFollowups eng d c.followups).2.elim .ok .rawDuck) := by
  by_cases hdb : c.noDatabase = true ∧ ¬ w.sess.databaseSet = true
  · exact .inl ⟨hdb, execCall_noDatabase eng w c hdb⟩
  by_cases hsc : c.noSchema = true ∧ ¬ w.sess.schemaSet = true
  · exact .inr (.inl ⟨hsc, execCall_noSchema eng w c hdb hsc⟩)
  cases he : eng w.duck c.sql with
  | error e => exact .inr (.inr (.inl ⟨e, rfl, execCall_error eng w c hdb hsc he⟩))
  | ok d => exact .inr (.inr (.inr ⟨d, rfl, execCall_ok eng w c hdb hsc he⟩))

theorem execCall_fail (hf : c.followups = []) (h : (execCall eng w c).2 ≠ .ok) : (execCall eng w c).1 = w := by
  rcases execCall_cases eng w c with ⟨_, h'⟩ | ⟨_, h'⟩ | ⟨e, _, h'⟩ | ⟨d, _, h'⟩ <;> rw [h'] at h ⊢
  -- in the first three cases the world is `w` as it stands (closed by `rw`); an accepted call without follow-ups succeeds
  rw [hf] at h
  exact absurd rfl h

theorem mapExc_ne_precheck (e : DuckExc) :
    (mapExc e).getD .ok ≠ .programming c90105 ∧ (mapExc e).getD .ok ≠ .programming c90106 := by
  cases e <;> decide

theorem execCall_precheck_only :
    ((execCall eng w c).2 = .programming c90105 → c.noDatabase = true ∧ ¬ w.sess.databaseSet = true) ∧
    ((execCall eng w c).2 = .programming c90106 → c.noSchema = true ∧ ¬ w.sess.schemaSet = true) := by
  rcases execCall_cases eng w c with ⟨hdb, h⟩ | ⟨hsc, h⟩ | ⟨e, _, h⟩ | ⟨d, _, h⟩ <;> rw [h]
  · exact ⟨fun _ => hdb, fun h => absurd (Outcome.programming.inj h) (by decide)⟩
  · exact ⟨fun h => absurd (Outcome.programming.inj h) (by decide), fun _ => hsc⟩
  · exact ⟨fun h => absurd h (mapExc_ne_precheck e).1, fun h => absurd h (mapExc_ne_precheck e).2⟩
  · cases (runFollowups eng d c.followups).2 <;> exact ⟨nofun, nofun⟩

theorem execCalls_single : execCalls eng w [c] = execCall eng w c := by
  rw [execCalls]
  obtain ⟨w', o⟩ := execCall eng w c
  cases o <;> rfl

variable (s : Stmt Q)

theorem execute_closed (h : w.closed = true) : execute eng w s = ⟨w, none, .database c250002⟩ := by
  unfold execute
  exact if_pos h

theorem execute_undefinedVar (hopen : w.closed = false) (hu : s.undefinedVar = true) :
    execute eng w s = ⟨w, some cNone.sqlstate, .programming cNone⟩ := by
  rw [execute, hopen, hu]
  rfl

theorem execute_parseError (hopen : w.closed = false) (hu : s.undefinedVar = false) (hp : s.parseError = true) :
    execute eng w s = ⟨w, none, .rawPy .sqlglotParseError⟩ := by
  rw [execute, hopen, hu, hp]
  rfl

theorem execute_calls {sess} (hopen : w.closed = false) (hu : s.undefinedVar = false) (hp : s.parseError = false)
    (hv : applyVar w.sess s.varUpdate = .ok sess) :
    execute eng w s = ⟨(execCalls eng { w with sess := sess } s.calls).1, sqlstateOf (execCalls eng { w with sess := sess } s.calls).2,
      (execCalls eng { w with sess := sess } s.calls).2⟩ := by
  rw [execute, hopen, hu, hp, hv]
  rfl

theorem execute_single (hopen : w.closed = false) (hu : s.undefinedVar = false) (hp : s.parseError = false)
    (hv : s.varUpdate = .none) (hc : s.calls = [c]) :
    execute eng w s = ⟨(execCall eng w c).1, sqlstateOf (execCall eng w c).2, (execCall eng w c).2⟩ := by
  rw [execute_calls eng w s hopen hu hp (by rw [hv]; rfl), hc, execCalls_single]

theorem runExecutes_fail (rest : List (Stmt Q)) (h : (execute eng w s).outcome ≠ .ok) :
    runExecutes eng w (s :: rest) = ((execute eng w s).world, (execute eng w s).outcome) := by
  rw [runExecutes]
  split
  · exact absurd ‹_› h
  · rfl

theorem runOps_others {st : Option String} {ops : List (CurOp Q)}
    (h : ∀ o ∈ ops, o = .other) : runOps eng w st ops = (w, st) := by
  induction ops with
  | nil => rfl
  | cons o os ih =>
    obtain ⟨rfl, hos⟩ := List.forall_mem_cons.mp h
    exact ih hos

theorem runOps_append (st : Option String) (a b : List (CurOp Q)) :
    runOps eng w st (a ++ b) = runOps eng (runOps eng w st a).1 (runOps eng w st a).2 b := by
  induction a generalizing w st with
  | nil => rfl
  | cons o os ih => cases o <;> exact ih _ _

end

theorem Cause.mem_all (c : Cause) : c ∈ Cause.all := by cases c <;> decide +kernel
theorem Pos.mem_all (p : Pos) : p ∈ Pos.all := by cases p <;> decide +kernel
theorem Qual.mem_all (q : Qual) : q ∈ Qual.all := by cases q <;> decide +kernel
theorem RefKind.mem_all (k : RefKind) : k ∈ RefKind.all := by cases k <;> decide +kernel

theorem Scenario.mem_all (sc : Scenario) : sc ∈ Scenario.all := by
  obtain ⟨c, p, k, q, a, b⟩ := sc
  simp only [Scenario.all, Scenario.forCause, List.mem_flatMap, List.mem_map]
  exact ⟨c, Cause.mem_all c, p, Pos.mem_all p, k, RefKind.mem_all k, q, Qual.mem_all q, a, by cases a <;> simp, b, by cases b <;> simp, rfl⟩

theorem mapExc_duckClass (c : Cause) : mapExc (duckClass c) = some (.programming (codeOf (duckClass c))) := by
  cases c <;> rfl

/-- the one call of a scenario's statement -/
def Scenario.call (sc : Scenario) : Call Nat :=
  { noDatabase := (unqualified sc.refKind sc.qual.parts).1, noSchema := (unqualified sc.refKind sc.qual.parts).2, sql := 0,
    followups := if sc.pos = .commentTarget then [1] else [] }

theorem Scenario.stmt_calls (sc : Scenario) : sc.stmt.calls = [sc.call] := rfl

theorem predict_of_unchanged {sc : Scenario} {o : Outcome} (h : execCall sc.eng sc.world sc.call = (sc.world, o)) :
    predict sc = (o, false) := by
  unfold predict
  rw [execute_single sc.eng sc.world sc.call sc.stmt rfl rfl rfl rfl sc.stmt_calls, h]
  simp only [bne_self_eq_false, Bool.or_false]
  rfl

theorem reaction_of_noFinding {sc : Scenario} (h : scenarioFinding sc = none)
    (hdb : ¬ ((unqualified sc.refKind sc.qual.parts).1 = true ∧ ¬ sc.dbSet = true))
    (hsc : ¬ ((unqualified sc.refKind sc.qual.parts).2 = true ∧ ¬ sc.schemaSet = true)) :
    reaction sc.cause sc.pos = .raises (duckClass sc.cause) := by
  unfold scenarioFinding at h
  rw [if_neg (not_or.mpr ⟨hdb, hsc⟩)] at h
  unfold reaction
  cases hp : sc.pos <;> rw [hp] at h
  case commentTarget | showScope | dropDatabase => cases h
  all_goals rfl

theorem Scenario.eng_raises {sc : Scenario} {e} (h : reaction sc.cause sc.pos = .raises e) (d : Nat) :
    sc.eng d 0 = .error e := by
  unfold Scenario.eng
  rw [h]
  rfl

end Fs.Err
