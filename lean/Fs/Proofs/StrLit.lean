/-!
Test vectors are written with string literals (`"select 1".toList`).  A `String` is a UTF-8 byte array, so evaluating `toList` of
a literal runs the decoder, which is most of the cost of a test vector.  To the unifier the literal *is*
`String.ofList ['s', 'e', …]`, so `String.toList_ofList` rewrites `"…".toList` to the character list without evaluating anything.
What is left is closed by `decide +kernel`: one evaluation, in the kernel (plain `decide` evaluates in the elaborator as well).
-/

/-- `rw` once per distinct literal (`simp only` does not see through literals); a literal inside a definition is reached only
    after that definition is unfolded -/
macro "string_lits" : tactic => `(tactic| repeat rw [String.toList_ofList])
