import Fs.Model.Split
import Fs.Model.Gen
import Fs.Proofs.Lex
/-! For C16: the tokenizer undoes the Snowflake generator's escaping; the splitter on `;`-joined parts; `runAll` over an
appended statement list; a failing preparation ends `executePhased` (also C15). -/
namespace Fs.Split
open Fs.Lex Fs.Gen

theorem unesc_escChar (c e : Char) (h : escChar c = some e) : unesc e = some c := by
  revert h
  fun_cases escChar c <;> rintro ⟨⟩
  all_goals subst_vars; rfl

theorem run_str_sfGen (acc s : List Char) : run (.str acc) (sfGen s) = ([], .str (acc ++ s)) := by
  fun_induction sfGen s generalizing acc with
  | case1 => simp [run]
  | case2 c cs e he ih => simp [run_str_unesc _ _ (unesc_escChar c e he), ih]
  | case3 cs _ ih => simp [run_str_bs_quote, ih]
  | case4 c cs he hq ih =>
    have hb : c ≠ '\\' := fun e => by simp [e, escChar] at he
    simp [run_str_plain hb hq, ih]

/-- a part between separators: no `;` token in it -/
def semiFree (p : List Tok) : Prop := ∀ t ∈ p, t ≠ Tok.semi

theorem splitGo_append (cur p rest : List Tok) (hp : semiFree p) :
    splitGo cur (p ++ rest) = splitGo (cur ++ p) rest := by
  induction p generalizing cur with
  | nil => simp
  | cons t ts ih =>
    rw [semiFree, List.forall_mem_cons] at hp
    simp [splitGo, hp.1, ih (cur ++ [t]) hp.2]

theorem splitGo_join (cur p : List Tok) (ps : List (List Tok)) (h : ∀ q ∈ p :: ps, semiFree q) :
    splitGo cur (joinSemi (p :: ps)) = ((cur ++ p) :: ps).filter (fun q => !q.isEmpty) := by
  induction ps generalizing cur p with
  | nil =>
    have := splitGo_append cur p [] (h p (by simp))
    rw [List.append_nil] at this
    rw [joinSemi, this, splitGo]
    by_cases h1 : (cur ++ p).isEmpty <;> simp [h1]
  | cons q qs ih =>
    rw [joinSemi, splitGo_append cur p _ (h p (by simp)), splitGo, if_pos rfl,
      ih [] q (fun x hx => h x (by simp [hx]))]
    · by_cases h1 : (cur ++ p).isEmpty <;> simp [h1, List.filter_cons]
    · simp   -- `q :: qs ≠ []`: the equation of `joinSemi` for two or more parts asks for it

section
variable {W S R E : Type}

theorem runAll_append (exec : W → S → W × Except E R) (w : W) (a b : List S) :
    runAll exec w (a ++ b) =
      match runAll exec w a with
      | (w1, ra, none) => ((runAll exec w1 b).1, ra ++ (runAll exec w1 b).2.1, (runAll exec w1 b).2.2)
      | r => r := by
  fun_induction runAll exec w a with
  | case1 => rfl
  | case2 w x xs w' r hx ih =>
    simp only [List.cons_append, runAll, hx, ih]
    rcases runAll exec w' xs with ⟨w1, ra, _ | e⟩ <;> rfl
  | case3 w x xs w' e hx => simp [runAll, hx]

theorem runAll_congr {f g : W → S → W × Except E R} (w : W) (ss : List S) (h : ∀ w, ∀ s ∈ ss, f w s = g w s) :
    runAll f w ss = runAll g w ss := by
  fun_induction runAll g w ss with
  | case1 => rfl
  | case2 w s ss w' r hx ih => simp [runAll, h w s (by simp), hx, ih (fun w x hx => h w x (by simp [hx]))]
  | case3 w s ss w' e hx => simp [runAll, h w s (by simp), hx]
end

section
variable {W R E P C T : Type}

theorem executePhased_error (prep : C → Except E T) (pats : Option (List P)) (m : P → T → Bool) (ok : R)
    (exec : W → T → W × Except E R) (w : W) {cmd : C} {e : E} (h : prep cmd = .error e) :
    executePhased prep pats m ok exec w cmd = (w, .error e) := by
  rw [executePhased, h]
end

theorem runAll_tx_inserts (c r ns : List Nat) :
    runAll txExec ⟨c, some r⟩ (ns.map .ins) = (⟨c, some (r ++ ns)⟩, ns.map (fun _ => ()), none) := by
  induction ns generalizing r with
  | nil => simp [runAll]
  | cons n ns ih => simp [runAll, txExec, ih (r ++ [n])]

end Fs.Split
