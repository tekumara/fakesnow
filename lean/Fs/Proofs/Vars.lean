import Fs.Model.Vars
/-! For C15: the scan of `inline_variables` (`inlineGo`) is substitution over the reference tokens of `tokenize`; what
`SET`/`UNSET` do to a connection's dict (and to no other); a text without any `$word` (`hasRef`) is copied. -/
namespace Fs.Vars

theorem Res.app_nil (r : Res) : r.app [] = r := by cases r <;> simp [Res.app]
theorem Res.app_app (a b : List Char) (r : Res) : (r.app b).app a = r.app (a ++ b) := by
  cases r <;> simp [Res.app]

theorem inlineGo_eq (env : Env) (st : St) (t : List Char) :
    inlineGo env st t = substAll env (tokenize st t) := by
  -- `inlineGo` and `tokenize` have the same branches, and in each the two sides unfold alike
  fun_induction tokenize st t <;> simp [inlineGo, substAll, resolve, Res.app_app, *]
  -- left: the input ends just after a `$`, which `substAll` emits as `(Res.ok []).app ['$']`
  rfl

/-- text the scanner has consumed but not yet emitted -/
def St.pendingText : St → List Char
  | .copy _ => []
  | .dollar => ['$']
  | .name acc => '$' :: acc

theorem render_tokenize (st : St) (t : List Char) : render (tokenize st t) = st.pendingText ++ t := by
  fun_induction tokenize st t <;> simp [render, Tok.render, St.pendingText, *]

theorem tokenize_name (acc w post : List Char) (hw : ∀ c ∈ w, isWord c = true) :
    tokenize (.name acc) (w ++ post) = tokenize (.name (acc ++ w)) post := by
  induction w generalizing acc with
  | nil => simp
  | cons c cs ih =>
    rw [List.forall_mem_cons] at hw
    simp [tokenize, hw.1, ih (acc ++ [c]) hw.2]

theorem tokenize_after_name (acc post : List Char) (h : ∀ c, post.head? = some c → isWord c = false) :
    tokenize (.name acc) post = .ref acc :: tokenize (.copy false) post := by
  cases post with
  | nil => simp [tokenize]
  | cons c cs =>
    have hc : isWord c = false := h c rfl
    by_cases hd : c = '$'
    · subst hd; simp [tokenize, hc]
    · simp [tokenize, hc, hd]

theorem tokenize_ref (c : Char) (w post : List Char) (hc : isWord c = true) (hw : ∀ d ∈ w, isWord d = true)
    (hpost : ∀ d, post.head? = some d → isWord d = false) :
    tokenize (.copy false) ('$' :: c :: w ++ post) = .ref (c :: w) :: tokenize (.copy false) post := by
  simp only [tokenize, if_true, Bool.false_eq_true, if_false, hc, List.cons_append]
  rw [tokenize_name [c] w post hw, tokenize_after_name _ post hpost]
  simp

/-- the prefix is non-empty (`c :: p`): after it the scanner is in `copy false` whatever `pd` was -/
theorem inlineGo_prefix (env : Env) (c : Char) (p t : List Char) (hp : '$' ∉ c :: p) (pd : Bool) :
    inlineGo env (.copy pd) (c :: p ++ t) = (inlineGo env (.copy false) t).app (c :: p) := by
  induction p generalizing c pd with
  | nil => simp [inlineGo, (List.ne_of_not_mem_cons hp).symm]
  | cons d p ih =>
    rw [List.cons_append, inlineGo, if_neg (List.ne_of_not_mem_cons hp).symm, ih d (List.not_mem_of_not_mem_cons hp) false,
      Res.app_app]
    rfl

theorem Env.get_set (e : Env) (n v m : List Char) : (e.set n v).get m = if m = n then some v else e.get m := by
  by_cases hm : m = n
  · subst hm; fun_induction Env.set e m v <;> simp [Env.get, *]
  · fun_induction Env.set e n v <;> simp [Env.get, Ne.symm hm, *]

/-- keys are unique: an invariant of `set`/`unset` (`nodup_set`, `nodup_unset`), which `get_unset` needs -/
def Env.nodup : Env → Prop
  | [] => True
  | (k, _) :: e => Env.get e k = none ∧ Env.nodup e

theorem Env.get_unset (e : Env) (hd : e.nodup) (n m : List Char) :
    (e.unset n).get m = if m = n then none else e.get m := by
  by_cases hm : m = n
  · -- `unset` removes the first pair with key `m`; that no later one has it is `hd`
    subst hm; fun_induction Env.unset e m <;> simp_all [Env.get, Env.nodup]
  · have := Ne.symm hm
    fun_induction Env.unset e n <;> simp_all [Env.get, Env.nodup]

theorem Env.nodup_set (e : Env) (n v : List Char) (hd : e.nodup) : (e.set n v).nodup := by
  -- a head key `k ≠ n` stays absent from the tail: `get_set` leaves lookups at `k` alone (in `nodup_unset`: `get_unset`)
  fun_induction Env.set e n v <;> simp_all [Env.nodup, Env.get, Env.get_set]

theorem Env.nodup_unset (e : Env) (n : List Char) (hd : e.nodup) : (e.unset n).nodup := by
  fun_induction Env.unset e n <;> simp_all [Env.nodup, Env.get_unset]

theorem World.env_set_ne (w : World) {i j : Nat} (h : j ≠ i) (e : Env) : World.env (w.set j e) i = w.env i := by
  simp [World.env, List.getD, List.getElem?_set_ne h]

theorem World.env_set_self (w : World) {i : Nat} (h : i < w.length) (e : Env) : World.env (w.set i e) i = e := by
  simp [World.env, List.getD, h]

/-- is there any reference at all: a `$` not preceded by `$` and followed by a word character.  The `Bool` says whether the character
    before the text was a `$` (`false` for a whole text). -/
def hasRef : Bool → List Char → Bool
  | _, [] => false
  | _, [_] => false
  | pd, c :: d :: rest => (c = '$' && !pd && isWord d) || hasRef (c = '$') (d :: rest)

theorem hasRef_cons (pd : Bool) (c : Char) (t : List Char) :
    hasRef pd (c :: t) = ((c = '$' && !pd && t.head?.any isWord) || hasRef (c = '$') t) := by
  cases t <;> simp [hasRef]

theorem refAt_or (st : Fs.Lex.St) (pd : Bool) (t : List Char) :
    (refAt true st pd t || refAt false st pd t) = hasRef pd t := by
  fun_induction hasRef pd t generalizing st with
  | case1 | case2 => simp [refAt]
  | case3 pd c d rest ih =>
    simp only [refAt, ← ih (Fs.Lex.step st c).2]
    cases st.boundary <;> simp [Bool.or_assoc, Bool.or_left_comm]

theorem substAll_txt (env : Env) (t : List Char) : substAll env (t.map .txt) = .ok t := by
  induction t with
  | nil => simp [substAll]
  | cons c cs ih => simp [substAll, ih, Res.app]

/-- stated for the scanner states a reference-free text passes through; in `dollar` the `$` just read is still to be emitted -/
theorem tokenize_noref (st : St) (t : List Char) :
    match st with
    | .copy pd => hasRef pd t = false → tokenize st t = t.map .txt
    | .dollar => hasRef false ('$' :: t) = false → tokenize st t = .txt '$' :: t.map .txt
    | .name _ => True := by
  fun_induction tokenize st t <;> simp +contextual [hasRef_cons, *]

theorem inlineGo_noref (env : Env) (pd : Bool) (t : List Char) (h : hasRef pd t = false) :
    inlineGo env (.copy pd) t = .ok t := by
  rw [inlineGo_eq, tokenize_noref (.copy pd) t h, substAll_txt]

end Fs.Vars
