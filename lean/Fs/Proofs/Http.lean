import Fs.Model.Http
import Fs.Proofs.Basic
/-! Lemmas for C17: the wire arithmetic in closed form, the outcome envelope, and the session table read through
`lookup` (what a login and a query do to it, and the invariant behind `C17_sharing`). -/
namespace Fs.Http

theorem fractionOf_eq (us : Int) : fractionOf us = (us % M) * 1000 := by
  unfold fractionOf floorSecond
  rw [Int.emod_def, Int.mul_comm M]

theorem epochOf_eq (us : Int) : epochOf us = us / M := by
  unfold epochOf floorSecond
  exact Int.mul_tdiv_cancel _ (by decide)

theorem fractionOf_range (us : Int) : 0 ≤ fractionOf us ∧ fractionOf us < 1000000000 := by
  rw [fractionOf_eq]
  exact ⟨Int.mul_nonneg (Int.emod_nonneg _ (by decide)) (by decide),
    Int.mul_lt_mul_of_pos_right (Int.emod_lt_of_pos _ (by decide)) (by decide)⟩

theorem castInt32_fraction (us : Int) : castInt32 (fractionOf us) = some (fractionOf us) :=
  if_pos (by have := fractionOf_range us; omega)

theorem encodeTs_eq (hasTz : Bool) (us : Int) :
    encodeTs hasTz us = some ⟨us / M, us % M * 1000, if hasTz then some 1440 else none⟩ := by
  unfold encodeTs
  rw [castInt32_fraction, fractionOf_eq, epochOf_eq]
  rfl

theorem decodeTime_encodeTime (t : Nat) :
    decodeTime (encodeTime t) = (t / 1000000 / 3600, t / 1000000 % 3600 / 60, t / 1000000 % 60, t % 1000000) := by
  have h1 : t * 1000 / 1000000000 = t / 1000000 := Nat.mul_div_mul_right t 1000000 (by decide)
  have h2 : t * 1000 % 1000000000 / 1000 = t % 1000000 := by
    rw [show 1000000000 = 1000000 * 1000 from rfl, Nat.mul_mod_mul_right, Nat.mul_div_cancel _ (by decide)]
  unfold decodeTime encodeTime
  rw [h1, h2]

/-- hour, minute and second are the base-60 digits of the second of the day: with `m = s / 60` the left side reads
    `(m / 60 * 60 + m % 60) * 60 + s % 60` -/
theorem hms_digits (s : Nat) : (s / 3600 * 60 + s % 3600 / 60) * 60 + s % 60 = s := by
  rw [show 3600 = 60 * 60 from rfl, ← Nat.div_div_eq_div_mul, Nat.mod_mul_right_div_self, Nat.div_add_mod',
    Nat.div_add_mod']

theorem batches_le_one (n : Nat) : batches n ≤ 1 ↔ n ≤ batchRows := by
  unfold batches
  rw [Nat.div_le_iff_le_mul_add_pred (by decide)]
  unfold batchRows
  omega

theorem implObs_ok_true (n rc : Nat) :
    implObs (.ok true n rc) = if n ≤ batchRows then .ok n rc .cols else .http500 := by
  simp only [implObs, batches_le_one]

theorem implObs_eq_specObs_iff (e : Exec) : implObs e = specObs e ↔ execInEnv e = true := by
  match e with
  | .progErr .. => exact iff_of_true rfl rfl
  | .otherExc | .ok false 0 _ | .ok false (_ + 1) _ => exact iff_of_false nofun nofun
  | .ok true n rc =>
    rw [implObs_ok_true, execInEnv, decide_eq_true_iff]
    split
    · exact iff_of_true rfl ‹_›
    · exact iff_of_false nofun ‹_›

theorem findingOf_eq_dash_iff (e : Exec) : findingOf e = "-" ↔ execInEnv e = true := by
  match e with
  | .progErr .. => exact iff_of_true rfl rfl
  | .otherExc | .ok false 0 _ | .ok false (_ + 1) _ => exact iff_of_false (by simp [findingOf]) nofun
  | .ok true n rc =>
    simp only [findingOf, batches_le_one, execInEnv, decide_eq_true_iff]
    split
    · exact iff_of_true rfl ‹_›
    · exact iff_of_false (by simp) ‹_›

theorem httpPy_decimal (p s : Nat) : httpPy (.decimal p s) = some (if s = 0 then .int else .decimal) := by
  cases s <;> rfl

theorem runQ_inst_backing (se : Sess) (d : List (Nat × Int)) (q : Q) :
    (runQ se d q).1.inst = se.inst ∧ (runQ se d q).1.backing = se.backing := by
  fun_cases runQ se d q <;> exact ⟨rfl, rfl⟩

theorem runQ_data (se : Sess) (d : List (Nat × Int)) (q : Q) :
    ∃ w : List Int, (runQ se d q).2.1 = d ++ w.map fun v => (se.inst, v) := by
  -- by (`se.tx`).(statement): only an auto-committed `put` and a `commit` write
  rcases se with ⟨_, _, _, _, _ | w⟩ <;> cases q
  case none.put v => exact ⟨[v], rfl⟩
  case some.commit => exact ⟨w, rfl⟩
  all_goals exact ⟨[], (List.append_nil d).symm⟩

theorem runQ_data_frame (se : Sess) (d : List (Nat × Int)) (q : Q) (i : Nat) (hi : i ≠ se.inst) :
    (runQ se d q).2.1.filter (·.1 == i) = d.filter (·.1 == i) := by
  obtain ⟨w, hw⟩ := runQ_data se d q
  have : w.filter ((·.1 == i) ∘ fun v => (se.inst, v)) = [] :=
    List.filter_eq_nil_iff.mpr fun v _ => by simpa using Ne.symm hi
  rw [hw, List.filter_append, List.filter_map, this, List.map_nil, List.append_nil]

theorem lookup_cons (p : Token × Sess) (ps : List (Token × Sess)) (t : Token) :
    lookup (p :: ps) t = if p.1 = t then some p.2 else lookup ps t := find?_fst_cons p ps t

theorem lookup_assign (ss : List (Token × Sess)) (t t' : Token) (se : Sess) :
    lookup (assign ss t se) t' = if t' = t then some se else lookup ss t' := by
  unfold assign
  rw [lookup_cons]
  by_cases h : t' = t
  · rw [if_pos h.symm, if_pos h]
  · rw [if_neg (Ne.symm h), if_neg h]
    exact congrArg _ (find?_fst_filter_ne h ss)

theorem lookup_map (ss : List (Token × Sess)) (t t' : Token) (se' : Sess) :
    lookup (ss.map fun p => if p.1 == t then (p.1, se') else p) t' =
      if t' = t then (lookup ss t).map fun _ => se' else lookup ss t' := by
  induction ss with
  | nil => simp [lookup]
  | cons p ps ih =>
    rw [List.map_cons, lookup_cons, lookup_cons, lookup_cons, ih]
    by_cases h : t' = t
    · subst h; by_cases e : p.1 = t' <;> simp [e]
    · by_cases e : p.1 = t
      · subst e; simp [h, Ne.symm h]
      · simp [e, h]

/-- `c :: cs`: an empty header is refused even when `[]` is a live token, so the statement fails for `some []` -/
theorem lookup_step_query (s : Srv) (c : Char) (cs : List Char) (q : Q) (t : Token) :
    lookup (step s (.query (some (c :: cs)) q)).1.sessions t =
      if t = slice17 (c :: cs) then (lookup s.sessions t).map fun se => (runQ se s.data q).1 else lookup s.sessions t := by
  cases hl : lookup s.sessions (slice17 (c :: cs)) <;> simp only [step, hl]
  · split
    · next h => rw [h, hl]; rfl
    · rfl
  · rw [lookup_map]
    split
    · next h => rw [h, hl]; rfl
    · rfl

/-- what sharing depends on: the instance and the backing behind each token -/
def owner (s : Srv) (t : Token) : Option (Nat × Backing) :=
  (lookup s.sessions t).map fun se => (se.inst, se.backing)

theorem owner_query (s : Srv) (a : Option (List Char)) (q : Q) :
    owner (step s (.query a q)).1 = owner s ∧ (step s (.query a q)).1.nextInst = s.nextInst := by
  match a with
  | none | some [] => exact ⟨rfl, rfl⟩
  | some (c :: cs) =>
    constructor
    · funext t
      unfold owner
      rw [lookup_step_query]
      split
      · cases lookup s.sessions t with
        | none => rfl
        | some se =>
          have ⟨hi, hb⟩ := runQ_inst_backing se s.data q
          exact congrArg some (Prod.ext hi hb)
      · rfl
    · cases hl : lookup s.sessions (slice17 (c :: cs)) <;> simp only [step, hl]

theorem owner_assign (s : Srv) (tok : Token) (se : Sess) (n : Nat) :
    owner { s with sessions := assign s.sessions tok se, nextInst := n } =
      fun t => if t = tok then some (se.inst, se.backing) else owner s t := by
  funext t
  unfold owner
  rw [lookup_assign]
  split <;> rfl

/-- The invariant behind `C17_sharing`, on the `owner` view `o` of the session table and the instance counter `n`:
    instance ids are below the counter, id 0 is the shared instance, every other id stands behind one token only. -/
structure Inv (o : Token → Option (Nat × Backing)) (n : Nat) : Prop where
  pos : 0 < n
  bound : ∀ {t i b}, o t = some (i, b) → i < n
  shared : ∀ {t i b}, o t = some (i, b) → (i = 0 ↔ b = .shared)
  uniq : ∀ {t t' i b b'}, o t = some (i, b) → o t' = some (i, b') → i ≠ 0 → t = t'

/-- binding `tok` to `(i, b)` keeps `Inv` when `i` is the shared instance 0 with `b = .shared` (`hb`), or a fresh id (`hfresh`) -/
theorem Inv.insert {o : Token → Option (Nat × Backing)} {n n' i : Nat} {b : Backing} (h : Inv o n) (tok : Token)
    (hn : n ≤ n') (hi : i < n') (hb : i = 0 ↔ b = .shared) (hfresh : i ≠ 0 → n ≤ i) :
    Inv (fun t => if t = tok then some (i, b) else o t) n' := by
  refine ⟨Nat.lt_of_lt_of_le h.pos hn, ?_, ?_, ?_⟩
  · intro t j c e
    split at e
    · cases e; exact hi
    · exact Nat.lt_of_lt_of_le (h.bound e) hn
  · intro t j c e
    split at e
    · cases e; exact hb
    · exact h.shared e
  · intro t t' j c c' e e' hj
    split at e <;> split at e'
    · rw [‹t = tok›, ‹t' = tok›]
    · cases e; exact absurd (h.bound e') (Nat.not_lt.mpr (hfresh hj))
    · cases e'; exact absurd (h.bound e) (Nat.not_lt.mpr (hfresh hj))
    · exact h.uniq e e' hj

theorem Inv.inst_eq_iff {o : Token → Option (Nat × Backing)} {n i i' : Nat} {b b' : Backing} {t t' : Token} (h : Inv o n)
    (e : o t = some (i, b)) (e' : o t' = some (i', b')) (hne : t ≠ t') : i = i' ↔ b = .shared ∧ b' = .shared := by
  constructor
  · rintro rfl
    by_cases z : i = 0
    · exact ⟨(h.shared e).mp z, (h.shared e').mp z⟩
    · exact absurd (h.uniq e e' z) hne
  · intro ⟨hb, hb'⟩
    rw [(h.shared e).mpr hb, (h.shared e').mpr hb']

theorem inv_init : Inv (owner {}) 1 := ⟨Nat.one_pos, nofun, nofun, nofun⟩

theorem inv_step (s : Srv) (r : Req) (h : Inv (owner s) s.nextInst) :
    Inv (owner (step s r).1) (step s r).1.nextInst := by
  cases r with
  | query a q => rw [(owner_query s a q).1, (owner_query s a q).2]; exact h
  | login tok b sch =>
    cases b with
    | shared =>
      show Inv (owner { s with sessions := assign s.sessions tok _, nextInst := _ }) _
      rw [owner_assign]
      exact h.insert tok (Nat.le_refl _) h.pos (iff_of_true rfl rfl) (absurd rfl)
    | _ =>   -- `.isolated`, `.path`: the fresh instance `s.nextInst`, which is not 0
      show Inv (owner { s with sessions := assign s.sessions tok _, nextInst := _ }) _
      rw [owner_assign]
      exact h.insert tok (Nat.le_succ _) (Nat.lt_succ_self _)
        (iff_of_false (Nat.ne_of_gt h.pos) nofun) (fun _ => Nat.le_refl _)

theorem inv_run (s : Srv) (rs : List Req) (h : Inv (owner s) s.nextInst) :
    Inv (owner (run s rs).1) (run s rs).1.nextInst := by
  induction rs generalizing s with
  | nil => exact h
  | cons r rs ih => exact ih _ (inv_step s r h)

end Fs.Http
