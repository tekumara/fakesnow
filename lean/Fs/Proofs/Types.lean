import Fs.Model.Types
import Fs.Proofs.Basic
/-! Lemmas for C01: no kind is left with an unknown storage type; `get`/`put` on the association-list database. -/
namespace Fs.Types

/-- `semi_structured_types` runs first, so the three kinds `duckOf` cannot spell never reach it. -/
theorem toDuck_ne_unknown (k : Kind) : toDuck k ≠ .unknown := by
  cases k <;> exact Duck.noConfusion

theorem get_cons (p : String × Table) (ps : Db) (n : String) :
    get (p :: ps) n = if p.1 = n then some p.2 else get ps n := find?_fst_cons p ps n

theorem get_put_self {db : Db} {n : String} {t : Table} : get (put db n t) n = some t := by
  rw [put, get_cons, if_pos rfl]

theorem get_put_ne {db : Db} {n n' : String} {t : Table} (h : n' ≠ n) : get (put db n t) n' = get db n' := by
  rw [put, get_cons, if_neg (Ne.symm h)]
  exact congrArg _ (find?_fst_filter_ne h db)

end Fs.Types
