import Fs.Model.Fold
import Fs.Proofs.Basic
/-! Identifier folding (C02): `upper` and `canon` are normal forms; `canon` identifies `CaseEq` trees and commutes with `firstIdent`. -/
namespace Fs.Fold

theorem upperC_toNat (c : Char) :
    (upperC c).toNat = if 97 ≤ c.toNat ∧ c.toNat ≤ 122 then c.toNat - 32 else c.toNat := by
  unfold upperC
  split
  next h => exact toNat_ofNat_small _ (by omega)
  · rfl

theorem upperC_not_lower (c : Char) : ¬ (97 ≤ (upperC c).toNat ∧ (upperC c).toNat ≤ 122) := by
  rw [upperC_toNat]; split <;> omega

theorem upperC_idem (c : Char) : upperC (upperC c) = upperC c :=
  if_neg (upperC_not_lower c)

theorem upper_idem (s : List Char) : upper (upper s) = upper s := by
  simp [upper, upperC_idem]

theorem upper_no_lower (s : List Char) : ∀ c ∈ upper s, ¬ (97 ≤ c.toNat ∧ c.toNat ≤ 122) :=
  List.forall_mem_map.2 fun c _ => upperC_not_lower c

theorem norm_canon (i : Ident) : (⟨i.norm, i.quoted⟩ : Ident).norm = i.norm := by
  unfold Ident.norm; cases i.quoted <;> simp [upper_idem]

theorem caseEq_ident {a b : Ident} : CaseEq (.ident a) (.ident b) ↔ a.quoted = b.quoted ∧ a.norm = b.norm := by
  unfold CaseEq Ident.norm
  refine and_congr_right fun hq => ?_
  rw [← hq]; split <;> rfl

mutual
theorem canon_idem : ∀ n : Node, canon (canon n) = canon n
  | .ident i => congrArg (fun r => Node.ident ⟨r, i.quoted⟩) (norm_canon i)
  | .kwFolded r => congrArg Node.kwFolded (upper_idem r)
  | .lit _ => rfl
  | .node t as => congrArg (Node.node t) (canonList_idem as)
theorem canonList_idem : ∀ l : List Node, canon.canonList (canon.canonList l) = canon.canonList l
  | [] => rfl
  | a :: as => by rw [canon.canonList, canon.canonList, canon_idem a, canonList_idem as]
end

mutual
theorem canon_caseEq (a b : Node) (h : CaseEq a b) : canon a = canon b := by
  -- for two different constructors `CaseEq` is `False` by definition
  cases a <;> cases b <;> try exact h.elim
  case ident.ident a b =>
    obtain ⟨hq, hn⟩ := caseEq_ident.1 h
    rw [canon, canon, hq, hn]
  case kwFolded.kwFolded => exact congrArg Node.kwFolded h
  case lit.lit => exact congrArg Node.lit h
  case node.node t as _ bs =>
    obtain ⟨rfl, hl⟩ := h
    exact congrArg (Node.node t) (canonList_caseEq as bs hl)
theorem canonList_caseEq : ∀ as bs : List Node, CaseEq.CaseEqList as bs →
    canon.canonList as = canon.canonList bs
  | [], [], _ => rfl
  | a :: as, b :: bs, ⟨h, hl⟩ => by
    rw [canon.canonList, canon.canonList, canon_caseEq a b h, canonList_caseEq as bs hl]
  | [], _ :: _, h | _ :: _, [], h => h.elim
end

mutual
theorem firstIdent_canon : ∀ n : Node, firstIdent (canon n) = (firstIdent n).map fun i => ⟨i.norm, i.quoted⟩
  | .ident _ | .kwFolded _ | .lit _ => rfl
  | .node _ as => firstIdentList_canon as
theorem firstIdentList_canon : ∀ l : List Node,
    firstIdent.firstIdentList (canon.canonList l) = (firstIdent.firstIdentList l).map fun i => ⟨i.norm, i.quoted⟩
  | [] => rfl
  | a :: as => by
    rw [canon.canonList, firstIdent.firstIdentList, firstIdent.firstIdentList, firstIdent_canon a,
      firstIdentList_canon as]
    cases firstIdent a <;> rfl
end

theorem find_agree (stored : List (List Char)) (ref : List Char)
    (hd : ∀ n ∈ stored, upper n = upper ref → n = ref) : duckFind stored ref = sfFind stored ref :=
  find?_congr fun n hn => Bool.eq_iff_iff.2 <| by
    rw [beq_iff_eq, beq_iff_eq]; exact ⟨hd n hn, congrArg upper⟩

end Fs.Fold
