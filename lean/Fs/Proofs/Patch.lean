import Fs.Model.Patch
/-! Lemmas for C20 (patch part).  Environments are compared through `get` only: an `Env` may list a slot twice, so
    leaving a `mock.patch` context gives back an equal lookup, not an equal list.  A run of the repaired `patch` is
    imports (`Imp`) followed by entering contexts (`Entered`); both relations are reflexive and transitive, which is
    what the inductions over the target list use, and `patchRun_fixed_summary` puts them together. -/
namespace Fs.Patch

theorem get_map (e : Env) (u : Slot → Obj → Obj) (s : Slot) :
    get (e.map fun p => (p.1, u p.1 p.2)) s = (get e s).map (u s) := by
  induction e with
  | nil => rfl
  | cons p e ih =>
    simp only [List.map_cons, get]
    split
    next hk => rw [hk]; rfl
    next => exact ih

theorem get_set (e : Env) (k s : Slot) (v : Obj) :
    get (set e k v) s = (get e s).map fun o => if s = k then v else o := by
  have : set e k v = e.map fun p => (p.1, if p.1 = k then v else p.2) :=
    List.map_congr_left fun p _ => by split <;> simp [*]
  rw [this]; exact get_map e (fun s o => if s = k then v else o) s

theorem get_append (e e' : Env) (s : Slot) : get (e ++ e') s = (get e s).or (get e' s) := by
  induction e with
  | nil => rfl
  | cons p e ih => simp only [List.cons_append, get]; split <;> simp [ih]

theorem get_mem {e : Env} {s : Slot} {o : Obj} (h : get e s = some o) : (s, o) ∈ e := by
  induction e with
  | nil => cases h
  | cons p e ih =>
    unfold get at h
    split at h
    next hk => cases hk; cases h; exact List.mem_cons_self
    next => exact List.mem_cons_of_mem _ (ih h)

theorem unwind_congr {stk : List (Slot × Obj)} {e1 e2 : Env} (h : ∀ s, get e1 s = get e2 s) :
    ∀ s, get (unwind stk e1) s = get (unwind stk e2) s := by
  induction stk generalizing e1 e2 with
  | nil => exact h
  | cons p r ih => exact ih fun s => by rw [get_set, get_set, h]

theorem set_set_restore {e : Env} {t : Slot} {o : Obj} (h : get e t = some o) (m : Obj) (s : Slot) :
    get (set (set e t m) t o) s = get e s := by
  rw [get_set, get_set]
  by_cases hs : s = t
  · subst hs; simp [h]
  · simp [hs]

/-- `e` extends `base`: nothing of `base` changes, and no fakesnow mock is new -/
structure Ext (base e : Env) : Prop where
  keeps : ∀ s o, get base s = some o → get e s = some o
  mocks : ∀ s i f, get e s = some (.mock i f) → ∃ s', get base s' = some (.mock i f)

theorem Ext.refl (e : Env) : Ext e e := ⟨fun _ _ h => h, fun s _ _ h => ⟨s, h⟩⟩

theorem Ext.trans {a b c : Env} (h1 : Ext a b) (h2 : Ext b c) : Ext a c :=
  ⟨fun s o h => h2.keeps s o (h1.keeps s o h),
   fun s i f h => by obtain ⟨s', h'⟩ := h2.mocks s i f h; exact h1.mocks s' i f h'⟩

theorem Ext.congr {a b c : Env} (h1 : Ext a b) (h : ∀ s, get c s = get b s) : Ext a c :=
  ⟨fun s o hs => by rw [h]; exact h1.keeps s o hs, fun s i f hs => h1.mocks s i f (by rw [← h]; exact hs)⟩

theorem evalBind_mock {e : Env} {b : Bind} {i : Nat} {f : Fake} (h : evalBind e b = .mock i f) :
    ∃ s', get e s' = some (.mock i f) := by
  cases b with
  | fromStd g =>
    refine ⟨stdSlot g, ?_⟩
    cases hg : get e (stdSlot g) <;> simp_all [evalBind]
  | _ => cases h

/-- `w'` is `w` after some imports: an import only adds modules and attributes (`ext`: nothing that existed changes, and
    a `from snowflake… import f` copies what the standard target holds, so it brings no fakesnow mock that was not there
    already), and touches no connection.  `nextInst` is left out on purpose, so that the relation also holds from the
    world before the instance counter was advanced. -/
structure Imp (w w' : World) : Prop where
  ext : Ext w.env w'.env
  closed : w'.closed = w.closed
  loaded : w.loaded ⊆ w'.loaded

theorem Imp.refl (w : World) : Imp w w := ⟨.refl _, rfl, List.Subset.refl _⟩

theorem Imp.trans {a b c : World} (h1 : Imp a b) (h2 : Imp b c) : Imp a c :=
  ⟨h1.ext.trans h2.ext, h2.closed.trans h1.closed, h1.loaded.trans h2.loaded⟩

theorem importModule_imp {w w1 : World} {m : Nat} (h : importModule w m = some w1) : Imp w w1 ∧ m ∈ w1.loaded := by
  unfold importModule at h
  split at h
  · cases h; exact ⟨.refl _, ‹_›⟩
  · split at h
    · cases h
    · cases h
      refine ⟨⟨⟨fun s o hs => by simp [get_append, hs], fun s i f hs => ?_⟩, rfl, List.subset_cons_self ..⟩,
        List.mem_cons_self⟩
      rw [get_append] at hs
      rcases Option.or_eq_some_iff.mp hs with hs | ⟨-, hs⟩
      · exact ⟨s, hs⟩
      · obtain ⟨p, -, hp⟩ := List.mem_map.mp (get_mem hs)
        exact evalBind_mock (Prod.mk.inj hp).2

theorem importModule_loaded {w : World} {m : Nat} (h : m ∈ w.loaded) : importModule w m = some w := by
  simp [importModule, h]

theorem importAll_imp (w : World) (ts : List Slot) :
    Imp w (importAll w ts).1 ∧ ((importAll w ts).2 = true → ∀ t ∈ ts, t.1 ∈ (importAll w ts).1.loaded) := by
  induction ts generalizing w with
  | nil => exact ⟨.refl w, fun _ _ h => nomatch h⟩
  | cons t ts ih =>
    simp only [importAll]
    cases hm : importModule w t.1 with
    | none => exact ⟨.refl w, nofun⟩
    | some w1 =>
      obtain ⟨h1, hl⟩ := importModule_imp hm
      obtain ⟨h2, ih⟩ := ih w1
      exact ⟨h1.trans h2, fun hok => List.forall_mem_cons.mpr ⟨h2.loaded hl, ih hok⟩⟩

/-- what set-up by instance `inst` may do to a slot -/
def KeptOrFaked (inst : Nat) (a b : Option Obj) : Prop :=
  b = a ∨ ∃ f, a = some (.real f) ∧ b = some (.mock inst f)

theorem KeptOrFaked.trans {inst : Nat} {a b c : Option Obj} (h1 : KeptOrFaked inst a b) (h2 : KeptOrFaked inst b c) :
    KeptOrFaked inst a c := by
  rcases h1 with rfl | ⟨f, ha, hb⟩
  · exact h2
  · rcases h2 with rfl | ⟨g, hb', _⟩
    · exact Or.inr ⟨f, ha, hb⟩
    · cases hb.symm.trans hb'

theorem KeptOrFaked.mock_stays {inst : Nat} {a b : Option Obj} (h : KeptOrFaked inst a b) (ha : a.any Obj.isMock = true) :
    b.any Obj.isMock = true := by
  rcases h with rfl | ⟨f, rfl, rfl⟩
  · exact ha
  · rfl

theorem KeptOrFaked.faked {inst : Nat} {o : Obj} {b : Option Obj} (h : KeptOrFaked inst (some o) b) (ho : o.isMock = false)
    (hb : b.any Obj.isMock = true) : ∃ f, o = .real f ∧ b = some (.mock inst f) := by
  rcases h with rfl | ⟨f, ha, hb'⟩
  · rw [Option.any_some, ho] at hb; cases hb
  · exact ⟨f, Option.some.inj ha, hb'⟩

/-- `st'` is `st` after entering some `mock.patch` contexts of instance `inst` without importing anything.  `restores` is the
    ExitStack invariant: closing the stack of `st'` restores what closing the stack of `st` restores. -/
structure Entered (inst : Nat) (st st' : St) : Prop where
  restores : ∀ s, get (unwind st'.stack st'.w.env) s = get (unwind st.stack st.w.env) s
  slot : ∀ s, KeptOrFaked inst (get st.w.env s) (get st'.w.env s)
  closed : st'.w.closed = st.w.closed
  loaded : st'.w.loaded = st.w.loaded

theorem Entered.refl (inst : Nat) (st : St) : Entered inst st st := ⟨fun _ => rfl, fun _ => .inl rfl, rfl, rfl⟩

theorem Entered.trans {inst : Nat} {a b c : St} (h1 : Entered inst a b) (h2 : Entered inst b c) : Entered inst a c :=
  ⟨fun s => (h2.restores s).trans (h1.restores s), fun s => (h1.slot s).trans (h2.slot s), h2.closed.trans h1.closed,
   h2.loaded.trans h1.loaded⟩

theorem enterTarget_entered (inst : Nat) (st : St) (t : Slot) (hl : t.1 ∈ st.w.loaded) :
    Entered inst st (enterTarget inst st t).1 ∧
    ((enterTarget inst st t).2 = none → (get (enterTarget inst st t).1.w.env t).any Obj.isMock = true) := by
  unfold enterTarget
  rw [importModule_loaded hl]
  simp only
  -- by what the slot holds: nothing, a real function, falsy, another object, a fakesnow mock, a user's mock
  split
  next => exact ⟨.refl .., nofun⟩
  next f hg =>
    refine ⟨⟨unwind_congr (set_set_restore hg _), fun s => ?_, rfl, rfl⟩, fun _ => ?_⟩
    · simp only [get_set]
      by_cases hs : s = t
      · subst hs; exact .inr ⟨f, hg, by simp [hg]⟩
      · exact .inl (by simp [hs])
    · simp [get_set, hg, Obj.isMock]
  next => exact ⟨.refl .., nofun⟩
  next => exact ⟨.refl .., nofun⟩
  next hg => exact ⟨.refl .., fun _ => by simp [hg, Obj.isMock]⟩
  next hg => exact ⟨.refl .., fun _ => by simp [hg, Obj.isMock]⟩

theorem enterAll_entered (inst : Nat) (ts : List Slot) (st : St) (hl : ∀ t ∈ ts, t.1 ∈ st.w.loaded) :
    Entered inst st (enterAll inst st ts).1 ∧
    ((enterAll inst st ts).2 = none → ∀ t ∈ ts, (get (enterAll inst st ts).1.w.env t).any Obj.isMock = true) := by
  induction ts generalizing st with
  | nil => exact ⟨.refl .., fun _ _ h => nomatch h⟩
  | cons t ts ih =>
    obtain ⟨hlt, hl⟩ := List.forall_mem_cons.mp hl
    obtain ⟨h1, hm⟩ := enterTarget_entered inst st t hlt
    simp only [enterAll]
    cases hr : enterTarget inst st t with
    | mk st1 r =>
      rw [hr] at h1 hm
      cases r with
      | some r => exact ⟨h1, nofun⟩
      | none =>
        obtain ⟨h2, im⟩ := ih st1 (h1.loaded ▸ hl)
        exact ⟨h1.trans h2, fun hok => List.forall_mem_cons.mpr ⟨(h2.slot t).mock_stays (hm rfl), im hok⟩⟩

theorem patchRun_refused {w : World} (h : guardOk w = false) (v : Variant) (extras : List Slot) (x : Exit) :
    patchRun v w extras x = ⟨.refused, none, w⟩ := by
  unfold patchRun
  rw [h]
  rfl

/-- `w1`: the world after the pre-import; `st`: the interpreter state when set-up ends, successfully or not -/
theorem patchRun_fixed_summary {w : World} (hg : guardOk w = true) (extras : List Slot) (x : Exit) :
    (patchRun fixed w extras x).outcome ≠ .refused ∧
    ∃ (w1 : World) (st : St),
      Imp w w1 ∧ Entered w.nextInst ⟨w1, []⟩ st ∧
      (patchRun fixed w extras x).after = cleanup w.nextInst st ∧
      ∀ wi, (patchRun fixed w extras x).inside = some wi →
        wi = st.w ∧ ∀ t ∈ targetsOf extras, (get st.w.env t).any Obj.isMock = true := by
  unfold patchRun
  obtain ⟨hi, hl⟩ := importAll_imp { w with nextInst := w.nextInst + 1 } (targetsOf extras)
  simp only [hg, Bool.not_true, Bool.false_eq_true, if_false, fixed, if_true]
  generalize importAll { w with nextInst := w.nextInst + 1 } (targetsOf extras) = pre at hi hl ⊢
  obtain ⟨w1, ok⟩ := pre
  -- `Imp` does not mention `nextInst`
  replace hi : Imp w w1 := ⟨hi.ext, hi.closed, hi.loaded⟩
  cases ok with
  | false => exact ⟨nofun, w1, ⟨w1, []⟩, hi, .refl .., rfl, nofun⟩
  | true =>
    obtain ⟨he, hm⟩ := enterAll_entered w.nextInst (targetsOf extras) ⟨w1, []⟩ (hl rfl)
    simp only [Bool.not_true, Bool.false_eq_true, if_false]
    generalize enterAll w.nextInst ⟨w1, []⟩ (targetsOf extras) = r at he hm ⊢
    obtain ⟨st, r⟩ := r
    cases r with
    | some r => exact ⟨nofun, w1, st, hi, he, rfl, nofun⟩
    | none => exact ⟨by cases x <;> nofun, w1, st, hi, he, rfl, fun wi h => ⟨(Option.some.inj h).symm, hm rfl⟩⟩

theorem patchRun_fixed_inside {w wi : World} {extras : List Slot} {x : Exit}
    (h : (patchRun fixed w extras x).inside = some wi) {t : Slot} (ht : t ∈ targetsOf extras) :
    (get wi.env t).any Obj.isMock = true ∧
    ∀ o, get w.env t = some o → o.isMock = false → ∃ f, o = .real f ∧ get wi.env t = some (.mock w.nextInst f) := by
  cases hg : guardOk w with
  | false => rw [patchRun_refused hg] at h; cases h
  | true =>
    obtain ⟨-, w1, st, hi, he, -, hm⟩ := patchRun_fixed_summary hg extras x
    obtain ⟨rfl, hm⟩ := hm wi h
    exact ⟨hm t ht, fun o ho hn => (hi.ext.keeps t o ho ▸ he.slot t).faked hn (hm t ht)⟩

end Fs.Patch
