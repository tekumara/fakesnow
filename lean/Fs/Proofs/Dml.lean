import Fs.Model.DmlExec
import Fs.Proofs.Basic
/-! Lemmas for C04.  The executor's scans equal the declarative reading, so `Impl.step = Spec.step` and everything else is argued on
    `Spec.apply`: what an accepted statement did, per kind (`apply_*_ok`), from which frame and well-formedness follow;
    `runWith_inv` carries what every accepted statement preserves over a history. -/
namespace Fs.Dml

theorem scanDelete_eq (p : Row → Tri) (rows : List Row) :
    scanDelete p rows = (rows.filter (fun r => ¬ p r = .t), rows.countP (fun r => p r = .t)) := by
  induction rows with
  | nil => rfl
  | cons r rs ih =>
    simp only [scanDelete, ih]
    by_cases h : p r = .t <;> simp [h]

theorem scanUpdate_eq (p : Row → Tri) (f : Row → Row) (rows : List Row) :
    scanUpdate p f rows = (rows.map (fun r => if p r = .t then f r else r), rows.countP (fun r => p r = .t)) := by
  induction rows with
  | nil => rfl
  | cons r rs ih =>
    simp only [scanUpdate, ih]
    by_cases h : p r = .t <;> simp [h]

theorem scanSelect_eq (p : Row → Tri) (f : Row → Row) (rows : List Row) :
    scanSelect p f rows = (rows.filter (fun r => p r = .t)).map f := by
  induction rows with
  | nil => rfl
  | cons r rs ih =>
    simp only [scanSelect, ih]
    by_cases h : p r = .t <;> simp [h]

theorem appendCount_eq (rows new : List Row) : appendCount rows new = (rows ++ new, new.length) := by
  induction new generalizing rows with
  | nil => simp [appendCount]
  | cons r rs ih => simp [appendCount, ih]

theorem insertRows_eq (db : DB) (tb : Table) (cols : Option (List Nat)) (src : Src) :
    Spec.insertRows db tb cols src =
      match srcRows db src with
      | .error e => .error e
      | .ok (w, rows) =>
        if colsOk tb.arity cols ∧ w = colsWidth tb.arity cols then .ok (rows.map (place tb.arity cols))
        else .error .binder := by
  cases src with
  | values w rows => simp only [Spec.insertRows, srcRows, ite_not]; split <;> rfl
  | select s proj p =>
    simp only [Spec.insertRows, srcRows, scanSelect_eq, ite_not]
    cases db[s]? with
    | none => rfl
    | some st => simp only []; split <;> rfl

theorem engine_eq_spec (db : DB) (s : Stmt) : engine db s = Spec.apply db s := by
  cases s with
  | insert t cols src =>
    simp only [engine, Spec.apply, insertRows_eq, appendCount_eq]
    cases db[t]? with
    | none => rfl
    | some tb =>
      simp only []
      cases srcRows db src with
      | error e => rfl
      | ok r => simp only []; split <;> rfl
  | update t sets p => simp only [engine, Spec.apply, scanUpdate_eq]; cases db[t]? <;> rfl
  | delete t p => simp only [engine, Spec.apply, scanDelete_eq]; cases db[t]? <;> rfl
  | truncate t => rfl

theorem finish_eq_obs (s : Stmt) (n : Nat) : finish (engineResult n) (branch (keyCommand s) n) = Spec.obs s n := by
  cases s <;> rfl

theorem Impl.step_eq_spec : Impl.step = Spec.step := by
  funext db s
  simp only [Impl.step, Spec.step, engine_eq_spec, finish_eq_obs]
  cases Spec.apply db s <;> rfl

theorem Spec.step_ok {db db' : DB} {s : Stmt} {o : Obs} (h : Spec.step db s = .ok (db', o)) :
    ∃ n, Spec.apply db s = .ok (db', n) ∧ o = Spec.obs s n := by
  unfold Spec.step at h
  cases ha : Spec.apply db s with
  | error e => rw [ha] at h; cases h
  | ok r => rw [ha] at h; cases h; exact ⟨r.2, rfl, rfl⟩

theorem Impl.step_ok {db db' : DB} {s : Stmt} {o : Obs} (h : Impl.step db s = .ok (db', o)) :
    ∃ n, Spec.apply db s = .ok (db', n) ∧ o = Spec.obs s n :=
  Spec.step_ok (Impl.step_eq_spec ▸ h)

/-- The `match` elaborates to the matcher that the look-ups in `Spec.apply` and `srcRows` use, so the lemma applies to
    `Spec.apply db s = .ok r` and `srcRows db src = .ok r` as they stand. -/
theorem lookup_ok {α : Type} {db : DB} {t : Nat} {k : Table → Except Err α} {a : α}
    (h : (match db[t]? with
      | none => Except.error Err.catalog
      | some tb => k tb) = .ok a) : ∃ tb, db[t]? = some tb ∧ k tb = .ok a := by
  cases hdb : db[t]? with
  | none => rw [hdb] at h; cases h
  | some tb => rw [hdb] at h; exact ⟨tb, rfl, h⟩

theorem apply_insert_ok {db db' : DB} {t : Nat} {cols : Option (List Nat)} {src : Src} {n : Nat}
    (h : Spec.apply db (.insert t cols src) = .ok (db', n)) : ∃ tb new, db[t]? = some tb ∧
      Spec.insertRows db tb cols src = .ok new ∧ db' = db.set t { tb with rows := tb.rows ++ new } ∧ n = new.length := by
  obtain ⟨tb, hdb, h⟩ := lookup_ok h
  cases hi : Spec.insertRows db tb cols src with
  | error e => rw [hi] at h; cases h
  | ok new => rw [hi] at h; cases h; exact ⟨tb, new, hdb, hi, rfl, rfl⟩

theorem apply_update_ok {db db' : DB} {t : Nat} {sets : List (Nat × Expr)} {p : Option Pred} {n : Nat}
    (h : Spec.apply db (.update t sets p) = .ok (db', n)) : ∃ tb, db[t]? = some tb ∧
      (setsOk tb.arity sets ∧ whereMaxCol p ≤ tb.arity) ∧
      db' = db.set t { tb with rows := tb.rows.map (fun r => if whereEval p r = .t then assign sets r else r) } ∧
      n = tb.rows.countP (fun r => whereEval p r = .t) := by
  obtain ⟨tb, hdb, h⟩ := lookup_ok h
  obtain ⟨hc, h⟩ := ok_of_ite_ok h
  cases h
  exact ⟨tb, hdb, hc, rfl, rfl⟩

theorem apply_delete_ok {db db' : DB} {t : Nat} {p : Option Pred} {n : Nat}
    (h : Spec.apply db (.delete t p) = .ok (db', n)) : ∃ tb, db[t]? = some tb ∧ whereMaxCol p ≤ tb.arity ∧
      db' = db.set t { tb with rows := tb.rows.filter (fun r => ¬ whereEval p r = .t) } ∧
      n = tb.rows.countP (fun r => whereEval p r = .t) := by
  obtain ⟨tb, hdb, h⟩ := lookup_ok h
  obtain ⟨hc, h⟩ := ok_of_ite_ok h
  cases h
  exact ⟨tb, hdb, hc, rfl, rfl⟩

theorem apply_truncate_ok {db db' : DB} {t : Nat} {n : Nat}
    (h : Spec.apply db (.truncate t) = .ok (db', n)) : ∃ tb, db[t]? = some tb ∧
      db' = db.set t { tb with rows := [] } ∧ n = tb.rows.length := by
  obtain ⟨tb, hdb, h⟩ := lookup_ok h
  cases h
  exact ⟨tb, hdb, rfl, rfl⟩

theorem apply_shape {db db' : DB} {s : Stmt} {n : Nat} (h : Spec.apply db s = .ok (db', n)) :
    ∃ tb rows', db[s.target]? = some tb ∧ db' = db.set s.target { tb with rows := rows' } := by
  cases s with
  | insert t cols src => obtain ⟨tb, _, hdb, _, rfl, _⟩ := apply_insert_ok h; exact ⟨tb, _, hdb, rfl⟩
  | update t sets p => obtain ⟨tb, hdb, _, rfl, _⟩ := apply_update_ok h; exact ⟨tb, _, hdb, rfl⟩
  | delete t p => obtain ⟨tb, hdb, _, rfl, _⟩ := apply_delete_ok h; exact ⟨tb, _, hdb, rfl⟩
  | truncate t => obtain ⟨tb, hdb, rfl, _⟩ := apply_truncate_ok h; exact ⟨tb, _, hdb, rfl⟩

theorem apply_frame {db db' : DB} {s : Stmt} {n : Nat} (h : Spec.apply db s = .ok (db', n)) :
    db'.length = db.length ∧ (∀ j, j ≠ s.target → db'[j]? = db[j]?) ∧
    (∀ tb', db'[s.target]? = some tb' → ∃ tb, db[s.target]? = some tb ∧ tb'.arity = tb.arity) := by
  obtain ⟨tb, rows', hdb, rfl⟩ := apply_shape h
  refine ⟨List.length_set, fun j hj => List.getElem?_set_ne (Ne.symm hj), fun tb' h' => ⟨tb, hdb, ?_⟩⟩
  rw [getElem?_set_of_some hdb] at h'
  cases h'; rfl

def Table.wf (tb : Table) : Prop := ∀ r ∈ tb.rows, r.length = tb.arity
def DB.wf (db : DB) : Prop := ∀ tb ∈ db, tb.wf

theorem assign_length (sets : List (Nat × Expr)) (r : Row) : (assign sets r).length = r.length := by
  simp [assign]

theorem place_length {arity : Nat} {cols : Option (List Nat)} {src : Row}
    (h : src.length = colsWidth arity cols) : (place arity cols src).length = arity := by
  cases cols with
  | none => exact h
  | some cs => simp [place]

theorem projRow_length (proj : Option (List Expr)) (r : Row) : (projRow proj r).length = projWidth proj r.length := by
  cases proj with
  | none => rfl
  | some es => simp [projRow, projWidth]

theorem srcRows_width {db : DB} (hwf : DB.wf db) {src : Src} {w : Nat} {rows : List Row}
    (h : srcRows db src = .ok (w, rows)) : ∀ r ∈ rows, r.length = w := by
  cases src with
  | values w' rows' =>
    obtain ⟨hall, h⟩ := ok_of_ite_ok h
    cases h
    simpa using hall
  | select s proj p =>
    obtain ⟨st, hs, h⟩ := lookup_ok h
    obtain ⟨_, h⟩ := ok_of_ite_ok h
    cases h
    intro r hr
    rw [scanSelect_eq] at hr
    obtain ⟨r0, hr0, rfl⟩ := List.mem_map.mp hr
    rw [projRow_length, hwf st (List.mem_of_getElem? hs) r0 (List.mem_filter.mp hr0).1]

theorem insertRows_wf {db : DB} (hwf : DB.wf db) {tb : Table} {cols : Option (List Nat)} {src : Src} {new : List Row}
    (h : Spec.insertRows db tb cols src = .ok new) : ∀ r ∈ new, r.length = tb.arity := by
  rw [insertRows_eq] at h
  cases hs : srcRows db src with
  | error e => rw [hs] at h; cases h
  | ok k =>
    rw [hs] at h
    obtain ⟨hc, h⟩ := ok_of_ite_ok h
    subst h
    intro r hr
    obtain ⟨r0, hr0, rfl⟩ := List.mem_map.mp hr
    exact place_length (hc.2 ▸ srcRows_width hwf hs r0 hr0)

theorem wf_set {db : DB} (hwf : DB.wf db) {t : Nat} {tb : Table} (htb : tb.wf) : DB.wf (db.set t tb) := by
  intro x hx
  rcases List.mem_or_eq_of_mem_set hx with h | rfl
  · exact hwf x h
  · exact htb

theorem apply_wf {db db' : DB} {s : Stmt} {n : Nat} (hwf : DB.wf db) (h : Spec.apply db s = .ok (db', n)) :
    DB.wf db' := by
  cases s with
  | insert t cols src =>
    obtain ⟨tb, new, hdb, hi, rfl, _⟩ := apply_insert_ok h
    refine wf_set hwf fun r hr => ?_
    rcases List.mem_append.mp hr with h1 | h1
    · exact hwf tb (List.mem_of_getElem? hdb) r h1
    · exact insertRows_wf hwf hi r h1
  | update t sets p =>
    obtain ⟨tb, hdb, _, rfl, _⟩ := apply_update_ok h
    refine wf_set hwf fun r hr => ?_
    obtain ⟨r0, hr0, rfl⟩ := List.mem_map.mp hr
    have := hwf tb (List.mem_of_getElem? hdb) r0 hr0
    split
    · rwa [assign_length]
    · exact this
  | delete t p =>
    obtain ⟨tb, hdb, _, rfl, _⟩ := apply_delete_ok h
    exact wf_set hwf fun r hr => hwf tb (List.mem_of_getElem? hdb) r (List.mem_filter.mp hr).1
  | truncate t =>
    obtain ⟨tb, hdb, rfl, _⟩ := apply_truncate_ok h
    exact wf_set hwf fun r hr => nomatch hr

theorem runWith_inv (P : DB → Prop) (ss : List Stmt)
    (hstep : ∀ {s db db' n}, s ∈ ss → P db → Spec.apply db s = .ok (db', n) → P db') {db : DB} (h : P db) :
    P (runWith Spec.step db ss).2 := by
  induction ss generalizing db with
  | nil => exact h
  | cons s ss ih =>
    have ih := @ih fun hs' => hstep (List.mem_cons_of_mem s hs')
    simp only [runWith]
    cases hs : Spec.step db s with
    | error e => exact ih h
    | ok r =>
      obtain ⟨n, hap, _⟩ := Spec.step_ok hs
      exact ih (hstep List.mem_cons_self h hap)

theorem runWith_length (db : DB) (ss : List Stmt) : (runWith Spec.step db ss).2.length = db.length :=
  runWith_inv (fun d => d.length = db.length) ss (fun _ hd hap => (apply_frame hap).1.trans hd) rfl

theorem runWith_outputs_length (f : DB → Stmt → Except Err (DB × Obs)) (db : DB) (ss : List Stmt) :
    (runWith f db ss).1.length = ss.length := by
  induction ss generalizing db with
  | nil => rfl
  | cons s ss ih =>
    simp only [runWith]
    cases f db s <;> simp [ih]

theorem executeString_ok {step : DB → Stmt → Except Err (DB × Obs)} {db : DB} {ss : List Stmt} {os : List Obs}
    (h : (executeString step db ss).1 = .ok os) :
    runWith step db ss = (os.map .ok, (executeString step db ss).2) := by
  induction ss generalizing db os with
  | nil => cases h; rfl
  | cons s ss ih =>
    simp only [executeString, runWith] at h ⊢
    cases hs : step db s with
    | error e => rw [hs] at h; cases h
    | ok r =>
      simp only [hs] at h ⊢
      cases hr : (executeString step r.1 ss).1 with
      | error e => rw [hr] at h; cases h
      | ok os' =>
        rw [hr] at h; cases h
        rw [ih hr]; rfl

theorem no_row_true {rows : List Row} {p : Row → Tri} (h : ∀ r ∈ rows, p r ≠ .t) :
    rows.countP (fun r => p r = .t) = 0 ∧ rows.filter (fun r => ¬ p r = .t) = rows ∧
    ∀ f : Row → Row, rows.map (fun r => if p r = .t then f r else r) = rows :=
  ⟨List.countP_eq_zero.mpr fun r hr => by simpa using h r hr,
    List.filter_eq_self.mpr fun r hr => by simpa using h r hr,
    fun _ => (List.map_congr_left fun r hr => if_neg (h r hr)).trans (List.map_id' rows)⟩

theorem posOf_eq_idxOf? (j : Nat) (cs : List Nat) : posOf j cs = cs.idxOf? j := by
  induction cs with
  | nil => rfl
  | cons c cs ih => simp [posOf, List.idxOf?_cons, ih]

theorem posOf_getElem {cs : List Nat} (h : cs.Nodup) {k : Nat} (hk : k < cs.length) : posOf cs[k] cs = some k := by
  rw [posOf_eq_idxOf?, List.idxOf?_eq_some_iff]
  exact ⟨hk, rfl, fun j hj e => Nat.ne_of_lt hj ((List.getElem_inj h).mp e)⟩

theorem posOf_none {cs : List Nat} {j : Nat} (h : j ∉ cs) : posOf j cs = none := by
  rw [posOf_eq_idxOf?, List.idxOf?_eq_none_iff]
  exact h

theorem matchAtStart_append {word head : List Char} (rest : List Char) (h : word.length ≤ head.length) :
    matchAtStart word (head ++ rest) = matchAtStart word head := by
  simp only [matchAtStart, List.take_append_of_le_length h, List.length_append, h, Nat.le_add_right_of_le h]

/-- `take`: a surplus of values is ignored; with a shortage all are bound and the remaining placeholders stay -/
theorem litValues_prepare (f : List Char → List Char) (cmd : List Seg) (vs : List (List Char)) (hcmd : litValues cmd = []) :
    litValues (prepare f cmd vs) = vs.take (placeholders cmd) := by
  unfold prepare
  induction cmd generalizing vs with
  | nil => rfl
  | cons s r ih =>
    cases s with
    | text t => exact ih vs hcmd
    | lit v => cases hcmd
    | ph =>
      cases vs with
      | nil => simpa [inlineSegs, bindSegs, litValues] using ih [] hcmd
      | cons v vs' => exact congrArg (v :: ·) (ih vs' hcmd)

theorem ddlFinding_none {k : DdlKind} {n : Ident} {noop : Bool} (h : ddlFinding k n noop = none) :
    ¬ (k.splicesName ∧ n.norm.contains '\'') ∧ ¬ (k.named ∧ noop) ∧ k ≠ .commentOnColumn := by
  obtain ⟨h1, h⟩ := ite_some_eq_none.mp h
  obtain ⟨h2, h⟩ := ite_some_eq_none.mp h
  exact ⟨h1, h2, (ite_some_eq_none.mp h).1⟩

end Fs.Dml
