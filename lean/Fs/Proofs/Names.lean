import Fs.Model.Names
import Fs.Proofs.Basic
/-!
# C03: fakesnow's session bookkeeping refines "one context per connection"

The invariant is `Session.coherent`: a coherent connection has one of three canonical shapes (`coherent_cases`), so it is
determined by the context it reports (`Session.abs`).  On such a connection the 9010x guards and DuckDB's search path resolve
a name exactly as the specification resolves it from the reported context, hence `exec` does what `sexec` does on the resolved
name (`Refines`).  `Cat.Keeps` is the frame condition that carries the coherence of the other connections over a step; that
the schema `g` a statement drops is not a connection's current one is written `Ctx.clear g x = x` for the context `x` it reports.
-/
namespace Fs.Names

theorem coherent_cases {c : Cat} {ss : Session} (h : ss.coherent c = true) :
    ss = ⟨none, none, false, false, (memoryDb, mainS)⟩ ∨
    (∃ d, ss = ⟨some d, none, true, false, (d, mainS)⟩ ∧ c.hasDb d = true) ∨
    (∃ d sc, ss = ⟨some d, some sc, true, true, (d, sc)⟩ ∧ c.hasSchema d sc = true) := by
  obtain ⟨db, sc, dset, sset, path⟩ := ss
  unfold Session.coherent at h
  cases db <;> cases sc <;> cases dset <;> cases sset <;> simp at h
  · left; simp [h]
  · right; left; exact ⟨_, by simp [h.2], h.1⟩
  · right; right; exact ⟨_, _, by simp [h.2], h.1⟩

theorem hasSchema_hasDb {c : Cat} {d s : Name} (h : c.hasSchema d s = true) : c.hasDb d = true := by
  simp [Cat.hasSchema] at h; exact h.1

theorem Impl.step_of_guard {w : World} {i : Nat} {st : Stmt} {ss : Session} {e : Err} (hi : w.sessions[i]? = some ss)
    (hraw : st.rawFails = false) (hg : ss.guard st.needs = some e) : Impl.step w i st = (.err e, w) := by
  simp only [Impl.step, hi, hraw, hg, Bool.false_eq_true, if_false]

theorem Impl.step_of_exec {w : World} {i : Nat} {st : Stmt} {ss : Session} (hi : w.sessions[i]? = some ss)
    (hraw : st.rawFails = false) (hg : ss.guard st.needs = none) :
    Impl.step w i st =
      ((exec w.cat ss st).1, ⟨(exec w.cat ss st).2.1, w.sessions.set i (exec w.cat ss st).2.2⟩) := by
  simp only [Impl.step, hi, hraw, hg, Bool.false_eq_true, if_false]

/-- `c'` has every database of `c`, and every schema of `c` except possibly `gone` -/
def Cat.Keeps (c c' : Cat) (gone : Option (Name × Name)) : Prop :=
  (∀ d, c.hasDb d = true → c'.hasDb d = true) ∧
  (∀ d s, c.hasSchema d s = true → gone ≠ some (d, s) → c'.hasSchema d s = true)

theorem Cat.Keeps.refl {c : Cat} {g} : Cat.Keeps c c g := ⟨fun _ h => h, fun _ _ h _ => h⟩

theorem Cat.Keeps.trans {a b c : Cat} {g} (h1 : Cat.Keeps a b g) (h2 : Cat.Keeps b c g) : Cat.Keeps a c g :=
  ⟨fun d h => h2.1 d (h1.1 d h), fun d s h hn => h2.2 d s (h1.2 d s h hn) hn⟩

theorem keeps_objs (c : Cat) (o : List Obj) (g) : Cat.Keeps c { c with objs := o } g :=
  ⟨fun _ h => h, fun _ _ h _ => h⟩

theorem hasDb_append (c : Cat) (d x : Name) (h : c.hasDb x = true) : ({ c with dbs := c.dbs ++ [d] } : Cat).hasDb x = true := by
  simp [Cat.hasDb] at *; exact Or.inl h

theorem keeps_addDb {c : Cat} {d : Name} {g} : Cat.Keeps c { c with dbs := c.dbs ++ [d] } g := by
  refine ⟨hasDb_append c d, fun x s h _ => ?_⟩
  simp only [Cat.hasSchema, Bool.and_eq_true] at h ⊢
  exact ⟨hasDb_append c d x h.1, h.2⟩

theorem keeps_addSchema {c : Cat} {p : Name × Name} {g} : Cat.Keeps c { c with schemas := c.schemas ++ [p] } g := by
  refine ⟨fun x h => h, fun x s h _ => ?_⟩
  simp only [Cat.hasSchema, Bool.and_eq_true, Bool.or_eq_true, List.contains_append] at h ⊢
  exact ⟨h.1, h.2.imp_right .inl⟩

theorem keeps_dropSchema {c : Cat} {d s : Name} :
    Cat.Keeps c { c with schemas := c.schemas.filter (· != (d, s)),
                         objs := c.objs.filter fun o => !(o.db == d && o.schema == s) } (some (d, s)) := by
  refine ⟨fun x h => h, fun x y h hne => ?_⟩
  simp only [Cat.hasSchema, Bool.and_eq_true, Bool.or_eq_true, List.contains_eq_mem, List.mem_filter,
    decide_eq_true_eq] at h ⊢
  exact ⟨h.1, h.2.imp_right fun hm => ⟨hm, bne_iff_ne.mpr fun e => hne (e ▸ rfl)⟩⟩

theorem keeps_applyT {c : Cat} {op : TOp} {d s n : Name} {g} : Cat.Keeps c (c.applyT op d s n).2 g := by
  fun_cases Cat.applyT c op d s n <;> exact keeps_objs c _ g

theorem keeps_applyTwo {c : Cat} {op : COp} {a b : Name × Name × Name} {g} : Cat.Keeps c (c.applyTwo op a b).2 g := by
  fun_cases Cat.applyTwo c op a b <;> exact keeps_objs c _ g

theorem keeps_createDb {c : Cat} {d : Name} {i : Bool} {g} : Cat.Keeps c (c.createDb d i).2 g := by
  fun_cases Cat.createDb c d i
  · exact Cat.Keeps.refl
  · exact Cat.Keeps.refl
  · exact keeps_addDb

/-- `gone` is written as `sexec` writes the schema it reports as dropped (`sexec_sch`) -/
theorem keeps_applyS (c : Cat) (op : SOp) (d s : Name) :
    Cat.Keeps c (c.applyS op d s).2
      (match op with | .drop _ => if (c.applyS op d s).1 = .ok then some (d, s) else none | _ => none) := by
  fun_cases Cat.applyS c op d s <;>
    first | exact Cat.Keeps.refl | exact keeps_addSchema | exact keeps_dropSchema

theorem applyS_cat_of_not_ok {c : Cat} {op : SOp} {d s : Name} : (c.applyS op d s).1 ≠ .ok → (c.applyS op d s).2 = c := by
  fun_cases Cat.applyS c op d s <;> intro h <;> first | rfl | exact absurd rfl h

theorem applyS_use_cat (c : Cat) (d s : Name) : (c.applyS .use d s).2 = c := by
  by_cases hd : c.hasDb d = true <;> by_cases hs : c.hasSchema d s = true <;> simp [Cat.applyS, hd, hs]

theorem applyS_use_ok {c : Cat} {d s : Name} (h : (c.applyS .use d s).1 = .ok) : c.hasSchema d s = true := by
  by_cases hs : c.hasSchema d s = true
  · exact hs
  · simp only [Cat.applyS, hs] at h
    split at h <;> cases h

theorem clear_none (x : Ctx) : Ctx.clear none x = x := rfl

theorem clear_eq_self_iff {g : Option (Name × Name)} {x : Ctx} :
    Ctx.clear g x = x ↔ ∀ d s, g = some (d, s) → ¬ (x.db = some d ∧ x.schema = some s) := by
  rcases g with _ | ⟨d, s⟩
  · exact iff_of_true rfl nofun
  · refine ⟨fun h d' s' e hx => ?_, fun h => by simp [Ctx.clear, h d s rfl]⟩
    cases e
    rw [Ctx.clear, if_pos hx] at h
    cases (congrArg Ctx.schema h).trans hx.2

theorem coherent_keeps {c c' : Cat} {ss : Session} {g : Option (Name × Name)} (hk : Cat.Keeps c c' g)
    (h : ss.coherent c = true) (hg : Ctx.clear g ss.abs = ss.abs) : ss.coherent c' = true := by
  rcases coherent_cases h with rfl | ⟨d, rfl, hd⟩ | ⟨d, sc, rfl, hs⟩
  · rfl
  · simp [Session.coherent, hk.1 d hd]
  · have : g ≠ some (d, sc) := fun e => clear_eq_self_iff.1 hg d sc e ⟨rfl, rfl⟩
    simp [Session.coherent, hk.2 d sc hs this]

theorem resolve_guard {c : Cat} {ss : Session} (hc : ss.coherent c = true) {r : TRef} {e : Err}
    (hg : ss.guard (r.needDb, r.needSchema) = some e) : ss.abs.resolveT r = .error e := by
  rcases coherent_cases hc with rfl | ⟨_, rfl, _⟩ | ⟨_, _, rfl, _⟩ <;> cases r <;> cases hg <;> rfl

theorem duckResolve_eq {c : Cat} {p : Name × Name} {create : Bool} {r : TRef}
    (hf : create = false → fallsBack c p r = false) :
    duckResolve c p create r =
      match r with | .q3 d s n => (d, s, n) | .q2 s n => (p.1, s, n) | .q1 n => (p.1, p.2, n) := by
  cases r with
  | q1 n =>
    cases create
    · have := hf rfl
      simp only [duckResolve, Bool.false_eq_true, if_false]
      split
      · rfl
      · split
        -- found in `main` only, and yet no fall-back: the path's schema is `main`
        · next h1 h2 => simp_all [fallsBack]
        · rfl
    · rfl
  | _ => rfl

theorem resolve_agree {c : Cat} {ss : Session} (hc : ss.coherent c = true) {r : TRef} (create : Bool)
    (hg : ss.guard (r.needDb, r.needSchema) = none) (hf : create = false → fallsBack c ss.path r = false) :
    ss.abs.resolveT r = .ok (duckResolve c ss.path create r) := by
  rw [duckResolve_eq hf]
  rcases coherent_cases hc with rfl | ⟨_, rfl, _⟩ | ⟨_, _, rfl, _⟩ <;> cases r <;> cases hg <;> rfl

theorem guard_none_of_full {ss : Session} (h : ss.guard (true, true) = none) {n : Bool × Bool} : ss.guard n = none := by
  obtain ⟨a, b⟩ := n
  simp only [Session.guard] at h ⊢
  cases hd : ss.databaseSet <;> cases hs : ss.schemaSet <;> simp_all

/-- a reference never needs a schema without needing a database; for other needs this is false: `(false, true)` on a connection with
    nothing set reports `noSchema`, `(true, true)` `noDb` -/
theorem guard_err_eq_full {ss : Session} {r : TRef} {e e' : Err} (h : ss.guard (true, true) = some e)
    (h' : ss.guard (r.needDb, r.needSchema) = some e') : e' = e := by
  obtain ⟨_, _, dset, sset, _⟩ := ss
  cases r <;> cases dset <;> cases sset <;> cases h <;> cases h' <;> rfl

theorem resolveS_guard {ss : Session} {r : SRef} {e : Err} (hg : ss.guard (r.needDb, false) = some e) :
    ss.abs.resolveS r = .error e := by
  cases r with
  | q2 _ _ => cases hg
  | q1 s =>
    cases hd : ss.databaseSet <;> simp [Session.guard, SRef.needDb, hd] at hg
    -- `databaseSet = true` has gone: the guard passes there
    simp [Session.abs, Ctx.resolveS, hd, hg]

theorem resolveS_ok {c : Cat} {ss : Session} (hc : ss.coherent c = true) (r : SRef)
    (hd : r.needDb = true → ss.databaseSet = true) : ∃ d s, ss.abs.resolveS r = .ok (d, s) := by
  cases r with
  | q2 d s => exact ⟨d, s, rfl⟩
  | q1 s =>
    rcases coherent_cases hc with rfl | ⟨d, rfl, _⟩ | ⟨d, sc, rfl, _⟩
    · cases hd rfl
    · exact ⟨d, s, rfl⟩
    · exact ⟨d, s, rfl⟩

theorem resolveS_cases {c : Cat} {ss : Session} (hc : ss.coherent c = true) {r : SRef} {d s : Name}
    (hr : ss.abs.resolveS r = .ok (d, s)) :
    r = .q2 d s ∨ (r = .q1 s ∧ ss.database = some d ∧ ss.databaseSet = true ∧ ss.path.1 = d) := by
  cases r with
  | q2 _ _ => cases hr; exact .inl rfl
  | q1 _ =>
    rcases coherent_cases hc with rfl | ⟨_, rfl, _⟩ | ⟨_, _, rfl, _⟩ <;> cases hr <;> exact .inr ⟨rfl, rfl, rfl, rfl⟩

theorem eq_of_abs_full {c : Cat} {ss : Session} {d s : Name} (hc : ss.coherent c = true) (h : ss.abs = ⟨some d, some s⟩) :
    ss = ⟨some d, some s, true, true, (d, s)⟩ ∧ c.hasSchema d s = true := by
  rcases coherent_cases hc with rfl | ⟨d0, rfl, _⟩ | ⟨d0, sc, rfl, hs⟩ <;> cases h
  exact ⟨rfl, hs⟩

theorem rawFails_of_localRegion_none {c : Cat} {ss : Session} {st : Stmt} (h : localRegion c ss st = none) : st.rawFails = false := by
  cases st with
  | two op a b =>
    cases hr : (Stmt.two op a b).rawFails
    · rfl
    · simp [localRegion, hr] at h
  | _ => rfl

/-- `r` (answer, catalog, connection after a statement) is what `sexec` — (answer, catalog, new context `.2.2.1`, schema dropped
    `.2.2.2`) — computes from the reported context; the connection is coherent again, the catalog kept all but the schema dropped -/
def Refines (c : Cat) (ss : Session) (st : Stmt) (r : Res × Cat × Session) : Prop :=
  r.1 = (sexec c ss.abs st).1 ∧
  r.2.1 = (sexec c ss.abs st).2.1 ∧
  r.2.2.abs = Ctx.clear (sexec c ss.abs st).2.2.2 (sexec c ss.abs st).2.2.1 ∧
  r.2.2.coherent r.2.1 = true ∧
  Cat.Keeps c r.2.1 (sexec c ss.abs st).2.2.2

theorem Refines.of_unchanged {c c' : Cat} {ss : Session} {st : Stmt} {r : Res} (hc : ss.coherent c = true)
    (hs : sexec c ss.abs st = (r, c', ss.abs, none)) (hk : Cat.Keeps c c' none) : Refines c ss st (r, c', ss) := by
  rw [Refines, hs]
  exact ⟨rfl, rfl, rfl, coherent_keeps hk hc rfl, hk⟩

theorem refines_tab {c : Cat} {ss : Session} (hc : ss.coherent c = true) (op : TOp) {r : TRef}
    (hg : ss.guard (r.needDb, r.needSchema) = none) (hf : op.isCreate = false → fallsBack c ss.path r = false) :
    Refines c ss (.tab op r) (exec c ss (.tab op r)) :=
  .of_unchanged hc (by simp only [sexec, resolve_agree hc op.isCreate hg hf]) keeps_applyT

theorem sexec_sch {c : Cat} {x : Ctx} {r : SRef} {d s : Name} {op : SOp} (hr : x.resolveS r = .ok (d, s)) :
    sexec c x (.sch op r) =
      ((c.applyS op d s).1, (c.applyS op d s).2,
        match op with
        | .use => (if (c.applyS op d s).1 = .ok then ⟨some d, some s⟩ else x, none)
        | .drop _ => (x, if (c.applyS op d s).1 = .ok then some (d, s) else none)
        | .create _ => (x, none)) := by
  cases op <;> simp only [sexec, hr] <;> split <;> simp [*]

/-- The DROP case has ONE condition because on a coherent connection DuckDB's own fall-back to `main` and the reset of `cursor.py`
    fire together: exactly when the schema dropped is the one reported. -/
theorem exec_sch {c : Cat} {ss : Session} (hc : ss.coherent c = true) {r : SRef} {d s : Name} {op : SOp}
    (hr : ss.abs.resolveS r = .ok (d, s)) :
    exec c ss (.sch op r) =
      ((c.applyS op d s).1, (c.applyS op d s).2,
        match op with
        | .use => if (c.applyS op d s).1 = .ok then ⟨some d, some s, true, true, (d, s)⟩ else ss
        | .drop _ =>
          if (c.applyS op d s).1 = .ok ∧ ss.abs = ⟨some d, some s⟩ then ⟨some d, none, true, false, (d, mainS)⟩ else ss
        | .create _ => ss) := by
  have hq := resolveS_cases hc hr
  cases op with
  | create i => rcases hq with rfl | ⟨rfl, _, _, rfl⟩ <;> rfl
  | use =>
    rw [applyS_use_cat]
    rcases hq with rfl | ⟨rfl, hdb, hset, _⟩
    · simp only [exec]; split <;> simp [*]
    · simp only [exec, hdb, hset, Option.map_some]; split <;> simp [*]
  | drop i =>
    by_cases hok : (c.applyS (.drop i) d s).1 = .ok
    · rcases hq with rfl | ⟨rfl, _, _, rfl⟩
      · -- `r = .q2 d s`
        simp only [exec, hok, true_and, if_true]
        rcases coherent_cases hc with rfl | ⟨d0, rfl, _⟩ | ⟨d0, sc, rfl, _⟩ <;> simp [Session.abs]
        -- no current schema: DuckDB's own fall-back to `main` starts from a path that is in `main` already
        · show memoryDb = d → mainS = s → d = memoryDb
          exact fun h _ => h.symm
        · show d0 = d → mainS = s → d = d0
          exact fun h _ => h.symm
        -- current schema `d0.sc`: DuckDB's fall-back and the reset of `cursor.py` both happen exactly when it is `d.s`
        · by_cases h : d0 = d ∧ sc = s <;> simp [h, and_comm]
      · -- `r = .q1 s`, `d` the database of the search path
        simp only [exec, hok, true_and, if_true]
        rcases coherent_cases hc with rfl | ⟨d0, rfl, _⟩ | ⟨d0, sc, rfl, _⟩ <;> simp [Session.abs]
        -- what is left is the connection in `d0.sc`: `if sc = s` around the triple on one side, inside it on the other
        split <;> rfl
    · have hsame := applyS_cat_of_not_ok hok
      rcases hq with rfl | ⟨rfl, _, _, rfl⟩ <;> simp only [exec, hok, false_and, if_false, hsame]

theorem refines_sch {c : Cat} {ss : Session} (hc : ss.coherent c = true) (op : SOp) {r : SRef} {d s : Name}
    (hr : ss.abs.resolveS r = .ok (d, s)) : Refines c ss (.sch op r) (exec c ss (.sch op r)) := by
  cases op with
  | create i => exact exec_sch hc hr ▸ .of_unchanged hc (sexec_sch hr) (keeps_applyS c (.create i) d s)
  | use =>
    rw [Refines, exec_sch hc hr, sexec_sch hr, applyS_use_cat]
    refine ⟨rfl, rfl, ?_, ?_, Cat.Keeps.refl⟩ <;> simp only
    · split <;> rfl
    · split
      · next hok => simp [Session.coherent, applyS_use_ok hok]
      · exact hc
  | drop i =>
    have hk : Cat.Keeps c (c.applyS (.drop i) d s).2 (if (c.applyS (.drop i) d s).1 = .ok then some (d, s) else none) :=
      keeps_applyS c (.drop i) d s
    have hclr (h : ¬ ((c.applyS (.drop i) d s).1 = .ok ∧ ss.abs = ⟨some d, some s⟩)) :
        Ctx.clear (if (c.applyS (.drop i) d s).1 = .ok then some (d, s) else none) ss.abs = ss.abs := by
      split
      · next hok => exact clear_eq_self_iff.2 fun _ _ hg hx => by cases hg; exact h ⟨hok, by rw [← hx.1, ← hx.2]⟩
      · rfl
    rw [Refines, exec_sch hc hr, sexec_sch hr]
    refine ⟨rfl, rfl, ?_, ?_, hk⟩ <;> simp only
    all_goals by_cases h : (c.applyS (.drop i) d s).1 = .ok ∧ ss.abs = ⟨some d, some s⟩
    -- the reported context: reset / kept
    · rw [if_pos h, if_pos h.1, h.2]; simp [Session.abs, Ctx.clear]
    · rw [if_neg h, hclr h]
    -- coherence: reset / kept
    · rw [if_pos h]; rw [if_pos h.1] at hk
      simp [Session.coherent, hk.1 d (hasSchema_hasDb (eq_of_abs_full hc h.2).2)]
    · rw [if_neg h]; exact coherent_keeps hk hc (hclr h)

theorem sexec_of_guard {c : Cat} {ss : Session} (hc : ss.coherent c = true) {st : Stmt} {e : Err}
    (hreg : localRegion c ss st = none) (hg : ss.guard st.needs = some e) :
    sexec c ss.abs st = (.err e, c, ss.abs, none) := by
  -- `st.needs` unfolds to the needs of the statement's first reference: that is how `hg` fits `resolve_guard` / `resolveS_guard`
  cases st with
  | createDb _ _ | useDb _ | selectCtx | writePandas _ _ => cases hg
  | dropDb _ | useBare _ => cases hreg
  | tab op r => simp only [sexec, resolve_guard hc hg]
  | join r _ => simp only [sexec, resolve_guard hc hg]
  | tabI op r =>
    -- the guard asks for database and schema; outside the region the reference itself needs what is missing
    cases he' : ss.guard (r.needDb, r.needSchema) with
    | none => simp [localRegion, he', show ss.guard (true, true) = some e from hg] at hreg
    | some e' => simp only [sexec, resolve_guard hc he', guard_err_eq_full hg he']
  | two op a b =>
    cases op
    case merge =>
      -- MERGE needs database and schema; its source is unqualified (anything else is in the region), so it fails
      -- like the guard unless the target has failed already, with the same error
      cases b with
      | q1 n =>
        have hb := resolve_guard hc (r := .q1 n) hg
        cases ha : ss.guard (a.needDb, a.needSchema) with
        | some e' => simp only [sexec, resolve_guard hc ha, guard_err_eq_full hg ha]
        -- the target resolves (to what does not matter: asked with `create := true`, `resolve_agree` has no fall-back premise)
        | none => simp only [sexec, resolve_agree hc true ha nofun, hb]
      | q2 _ _ => cases hreg
      | q3 _ _ _ => cases hreg
    all_goals simp only [sexec, resolve_guard hc hg]
  | sch op r =>
    cases op
    case use => cases hg
    all_goals simp only [sexec, resolveS_guard hg]

theorem exec_refines {c : Cat} {ss : Session} (hc : ss.coherent c = true) {st : Stmt}
    (hreg : localRegion c ss st = none) (hg : ss.guard st.needs = none) : Refines c ss st (exec c ss st) := by
  cases st with
  | dropDb _ | useBare _ => cases hreg
  | createDb d i => exact .of_unchanged hc rfl keeps_createDb
  | useDb d =>
    -- with a current schema the statement is in the region; without, the connection ends up the canonical one in `d`
    rcases coherent_cases hc with rfl | ⟨_, rfl, h0⟩ | ⟨_, _, rfl, _⟩
    · cases h : c.hasDb d <;> simp [Refines, exec, sexec, h, Session.abs, Session.coherent, Cat.Keeps.refl, clear_none]
    · cases h : c.hasDb d <;> simp [Refines, exec, sexec, h, h0, Session.abs, Session.coherent, Cat.Keeps.refl, clear_none]
    · cases hreg
  | selectCtx =>
    rcases coherent_cases hc with rfl | ⟨_, rfl, _⟩ | ⟨_, _, rfl, _⟩
    · cases hreg
    · cases hreg
    -- database and schema set: the search path is the reported context
    · exact .of_unchanged hc rfl .refl
  | tab op r => exact refines_tab hc op hg (by simpa [localRegion] using hreg)
  -- `exec` and `sexec` treat `IDENTIFIER(…)` and `write_pandas` literally as the plain statement
  | tabI op r =>
    exact refines_tab hc op (guard_none_of_full hg)
      (by simpa [localRegion, ite_some_eq_none, show ss.guard (true, true) = none from hg] using hreg)
  | writePandas v r =>
    obtain ⟨hgr, hf⟩ : ss.guard (r.needDb, r.needSchema) = none ∧ fallsBack c ss.path r = false := by
      simpa [localRegion, ite_some_eq_none] using hreg
    exact refines_tab hc (.insert v) hgr fun _ => hf
  | join r1 r2 =>
    obtain ⟨hg2, hf1, hf2⟩ :
        ss.guard (r2.needDb, r2.needSchema) = none ∧ fallsBack c ss.path r1 = false ∧ fallsBack c ss.path r2 = false := by
      simpa [localRegion, ite_some_eq_none, show ss.guard (r1.needDb, r1.needSchema) = none from hg] using hreg
    exact .of_unchanged hc
      (by simp only [sexec, resolve_agree hc false hg fun _ => hf1, resolve_agree hc false hg2 fun _ => hf2]) .refl
  | two op a b =>
    -- MERGE is guarded as if wholly unqualified, the others by their target
    have hga : ss.guard (a.needDb, a.needSchema) = none := by
      cases op
      case merge => exact guard_none_of_full hg
      all_goals exact hg
    obtain ⟨hgb, hfa, hfb⟩ : ss.guard (b.needDb, b.needSchema) = none ∧
        (op.creates = false → fallsBack c ss.path a = false) ∧ fallsBack c ss.path b = false := by
      simpa [localRegion, ite_some_eq_none, hg, rawFails_of_localRegion_none hreg] using hreg
    exact .of_unchanged hc
      (by simp only [sexec, resolve_agree hc op.creates hga hfa, resolve_agree hc false hgb fun _ => hfb])
      keeps_applyTwo
  | sch op r =>
    -- the reference resolves: CREATE / DROP SCHEMA are guarded by it, `USE SCHEMA s` without a database is in the region
    obtain ⟨d, s, hr⟩ := resolveS_ok hc r (by
      cases op <;> cases r <;> simp_all [localRegion, Stmt.needs, Session.guard, SRef.needDb])
    exact refines_sch hc op hr

theorem sexec_dropped {c : Cat} {x : Ctx} {st : Stmt} {d s : Name} : (sexec c x st).2.2.2 = some (d, s) →
    ∃ i r, st = .sch (.drop i) r ∧ x.resolveS r = .ok (d, s) := by
  fun_cases sexec c x st <;> intro h <;> cases h
  exact ⟨_, _, rfl, ‹_›⟩

theorem othersHold_false {w : World} {i : Nat} {d s : Name} (h : othersHold w i d s = false) {j : Nat} {sj : Session}
    (hji : j ≠ i) (hj : w.sessions[j]? = some sj) : ¬ (sj.abs.db = some d ∧ sj.abs.schema = some s) := fun hx => by
  have := List.any_eq_false.mp h j (List.mem_range.mpr (List.getElem?_eq_some_iff.mp hj).1)
  simp [hj, hji, hx.1, hx.2] at this

theorem region_none {w : World} {i : Nat} {st : Stmt} {ss : Session} (hi : w.sessions[i]? = some ss)
    (h : region w i st = none) :
    localRegion w.cat ss st = none ∧
    ∀ j sj, j ≠ i → w.sessions[j]? = some sj → Ctx.clear (sexec w.cat ss.abs st).2.2.2 sj.abs = sj.abs := by
  simp only [region, hi] at h
  cases hl : localRegion w.cat ss st with
  | some k => simp [hl] at h
  | none =>
    refine ⟨rfl, fun j sj hji hj => clear_eq_self_iff.2 fun d s hd => ?_⟩
    obtain ⟨_, r, rfl, hr⟩ := sexec_dropped hd
    have hoth : othersHold w i d s = false := by simpa [hl, hr] using h
    exact othersHold_false hoth hji hj

theorem step_local {w : World} {i : Nat} {st : Stmt} {ss : Session} (hi : w.sessions[i]? = some ss)
    (hc : ss.coherent w.cat = true) (hl : localRegion w.cat ss st = none) :
    ∃ r, Refines w.cat ss st r ∧ Impl.step w i st = (r.1, ⟨r.2.1, w.sessions.set i r.2.2⟩) := by
  have hraw := rawFails_of_localRegion_none hl
  cases hg : ss.guard st.needs with
  | some e =>
    refine ⟨(.err e, w.cat, ss), .of_unchanged hc (sexec_of_guard hc hl hg) (Cat.Keeps.refl), ?_⟩
    rw [Impl.step_of_guard hi hraw hg, set_self hi]
  | none => exact ⟨_, exec_refines hc hl hg, Impl.step_of_exec hi hraw hg⟩

theorem step_refines {w : World} {i : Nat} {st : Stmt} (hw : w.coherent = true) (hreg : region w i st = none) :
    (Impl.step w i st).1 = (Spec.step w.abs i st).1 ∧ (Impl.step w i st).2.abs = (Spec.step w.abs i st).2 ∧
    (Impl.step w i st).2.coherent = true := by
  cases hi : w.sessions[i]? with
  | none => simp [Impl.step, Spec.step, hi, World.abs, hw]
  | some ss =>
    simp only [World.coherent, List.all_eq_true] at hw ⊢
    obtain ⟨hl, hoth⟩ := region_none hi hreg
    obtain ⟨r, ⟨hres, hcat, habs, hcoh, hkeep⟩, hstep⟩ := step_local hi (hw ss (List.mem_of_getElem? hi)) hl
    simp only [hstep, Spec.step, World.abs, List.getElem?_map, hi, Option.map_some]
    refine ⟨hres, ?_, fun x hx => ?_⟩
    · simp only [SWorld.mk.injEq]
      refine ⟨hcat, List.ext_getElem? fun j => ?_⟩
      simp only [List.getElem?_map, List.getElem?_set, List.length_map]
      by_cases hij : i = j
      · subst hij
        simp [(List.getElem?_eq_some_iff.mp hi).1, habs]
      · simp only [hij, if_false]
        cases hj : w.sessions[j]? with
        | none => rfl
        | some sj => simp only [Option.map_some, hoth j sj (Ne.symm hij) hj]
    · rcases mem_set_cases hx with rfl | ⟨j, hji, hj⟩
      · exact hcoh
      · exact coherent_keeps hkeep (hw x (List.mem_of_getElem? hj)) (hoth j x hji hj)

theorem hasDb_ensureDb (c : Cat) (d : Name) : (c.ensureDb d).hasDb d = true := by
  unfold Cat.ensureDb; split
  · assumption
  · simp [Cat.hasDb]

theorem hasSchema_ensureSchema {c : Cat} {d : Name} (h : c.hasDb d = true) (s : Name) :
    (c.ensureSchema d s).hasSchema d s = true := by
  unfold Cat.ensureSchema; split
  · assumption
  · simp [Cat.hasSchema]; exact h

theorem keeps_ensureDb {c : Cat} {d : Name} : Cat.Keeps c (c.ensureDb d) none := by
  unfold Cat.ensureDb; split
  · exact Cat.Keeps.refl
  · exact keeps_addDb

theorem keeps_ensureSchema {c : Cat} {d s : Name} : Cat.Keeps c (c.ensureSchema d s) none := by
  unfold Cat.ensureSchema; split
  · exact Cat.Keeps.refl
  · exact keeps_addSchema

theorem keeps_connDb {c : Cat} {d : Name} {cd : Bool} : Cat.Keeps c (c.connDb d cd) none := by
  unfold Cat.connDb; split
  · exact keeps_ensureDb
  · exact Cat.Keeps.refl

theorem keeps_connSchema {c : Cat} {d s : Name} {cs : Bool} : Cat.Keeps c (c.connSchema d s cs) none := by
  unfold Cat.connSchema; split
  · exact keeps_ensureSchema
  · exact Cat.Keeps.refl

theorem keeps_newSession {c : Cat} {d s : Option Name} {cd cs : Bool} :
    Cat.Keeps c (Impl.newSession c d s cd cs).1 none := by
  cases d with
  | none => exact Cat.Keeps.refl
  | some d =>
    cases s with
    | none => exact keeps_connDb
    | some s => exact keeps_connDb.trans keeps_connSchema

theorem connect_refines (w : World) (d s : Option Name) (cd cs : Bool) :
    (Impl.connect w d s cd cs).abs = Spec.connect w.abs d s cd cs := by
  cases d with
  | none => simp [Impl.connect, Impl.newSession, Spec.connect, World.abs, Session.abs]
  | some d =>
    cases s with
    | none =>
      simp only [Impl.connect, Impl.newSession, Spec.connect, World.abs]
      by_cases h : (w.cat.connDb d cd).hasDb d = true <;> simp [h, Session.abs]
    | some s =>
      simp only [Impl.connect, Impl.newSession, Spec.connect, World.abs]
      by_cases h1 : ((w.cat.connDb d cd).connSchema d s cs).hasSchema d s = true
      · simp [h1, hasSchema_hasDb h1, Session.abs]
      · by_cases h2 : ((w.cat.connDb d cd).connSchema d s cs).hasDb d = true <;> simp [h1, h2, Session.abs]

theorem connect_coherent {w : World} {d s : Option Name} {cd cs : Bool} (hw : w.coherent = true)
    (henv : connectRegion w d s cd cs = none) : (Impl.connect w d s cd cs).coherent = true := by
  simp only [World.coherent, List.all_eq_true] at hw
  simp only [Impl.connect, World.coherent, List.all_eq_true, List.mem_append, List.mem_singleton]
  rintro x (hx | rfl)
  · exact coherent_keeps keeps_newSession (hw x hx) rfl
  · simpa [connectRegion] using henv

theorem run_refines {w : World} {ops : List Op} (hw : w.coherent = true) (hc : clean w ops = true) :
    (Impl.run w ops).1 = (Spec.run w.abs ops).1 ∧ (Impl.run w ops).2.abs = (Spec.run w.abs ops).2 ∧
    (Impl.run w ops).2.coherent = true := by
  induction ops generalizing w with
  | nil => exact ⟨rfl, rfl, hw⟩
  | cons o os ih =>
    cases o with
    | connect d s cd cs =>
      simp only [clean, Bool.and_eq_true, Option.isNone_iff_eq_none] at hc
      simpa only [Impl.run, Spec.run, ← connect_refines] using ih (connect_coherent hw hc.1) hc.2
    | stmt i st =>
      simp only [clean, Bool.and_eq_true, Option.isNone_iff_eq_none] at hc
      obtain ⟨h1, h2, h3⟩ := step_refines hw hc.1
      simpa only [Impl.run, Spec.run, ← h2, ← h1, List.cons.injEq, true_and] using ih h3 hc.2

end Fs.Names
