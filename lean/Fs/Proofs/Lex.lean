import Fs.Model.Lex
/-! The tokenizer automaton `Fs.Lex`: how `run`/`lexFrom` decompose over a text, what a state between tokens does
with the next character, and how the inside of a `'…'` literal and of a `/* … */` comment is read. -/
namespace Fs.Lex

theorem run_nil (st : St) : run st [] = ([], st) := rfl

theorem run_cons (st : St) (c : Char) (cs : List Char) :
    run st (c :: cs) = ((step st c).1 ++ (run (step st c).2 cs).1, (run (step st c).2 cs).2) := rfl

theorem run_append (st : St) (a b : List Char) :
    run st (a ++ b) = ((run st a).1 ++ (run (run st a).2 b).1, (run (run st a).2 b).2) := by
  induction a generalizing st with
  | nil => simp [run]
  | cons c cs ih => simp [run, ih, List.append_assoc]

theorem lexFrom_append (st : St) (a b : List Char) :
    lexFrom st (a ++ b) = (lexFrom (run st a).2 b).map ((run st a).1 ++ ·) := by
  simp only [lexFrom, run_append]
  cases finish (run (run st a).2 b).2 <;> simp

theorem lexFrom_cons (st : St) (c : Char) (cs : List Char) :
    lexFrom st (c :: cs) = (lexFrom (step st c).2 cs).map ((step st c).1 ++ ·) := by
  simp only [lexFrom, run_cons]
  cases finish (run (step st c).2 cs).2 <;> simp

theorem lexFrom_append_of_run {st st' : St} {a : List Char} {ta : List Tok} (h : run st a = (ta, st'))
    (b : List Char) : lexFrom st (a ++ b) = (lexFrom st' b).map (ta ++ ·) := by
  rw [lexFrom_append, h]

theorem lexFrom_cons_of_step {st st' : St} {c : Char} {tc : List Tok} (h : step st c = (tc, st'))
    (cs : List Char) : lexFrom st (c :: cs) = (lexFrom st' cs).map (tc ++ ·) := by
  rw [lexFrom_cons, h]

/-- what a boundary state still owes when the next token starts (or the input ends) -/
def pending : St → List Tok
  | .dash => [.chr '-']
  | .slash => [.chr '/']
  | .dollar => [.chr '$']
  | _ => []

theorem finish_boundary (st : St) (h : st.boundary = true) : finish st = some (pending st) := by
  cases st <;> simp_all [St.boundary, finish, pending]

/-- state outside every string, identifier and comment, with nothing pending: the two `boundary` states whose `pending` is empty
    (`dash`, `slash`, `dollar` are between tokens too, but still owe their character) -/
def St.outside (st : St) : Prop := st = .top ∨ st = .word

theorem St.outside.boundary_pending {st : St} (h : st.outside) : st.boundary = true ∧ pending st = [] := by
  rcases h with rfl | rfl <;> exact ⟨rfl, rfl⟩

/-- `hc`: `c` cannot continue the pending `-`, `/` (to `//`, `/*`), `$` or word -/
theorem step_boundary (st : St) (h : st.boundary = true) (c : Char) (hc : c ∉ ['$', '-', '/', '*']) :
    step st c = (pending st ++ (stepTop c).1, (stepTop c).2) := by
  simp only [List.mem_cons, List.not_mem_nil, or_false, not_or] at hc
  obtain ⟨h1, h2, h3, h4⟩ := hc
  cases st with
  | top => rfl
  | word => simp [step, pending, h1]
  | dash => simp [step, pending, thenTop, h2]
  | slash => simp [step, pending, thenTop, h3, h4]
  | dollar => simp [step, pending, thenTop, h1]
  | _ => cases h

theorem step_boundary_quote (st : St) (h : st.boundary = true) : step st '\'' = (pending st, .str []) := by
  simpa [stepTop] using step_boundary st h '\'' (by decide)

theorem step_boundary_semi (st : St) (h : st.boundary = true) : step st ';' = (pending st ++ [.semi], .top) := by
  simpa [stepTop] using step_boundary st h ';' (by decide)

theorem lex_of_run {cs : List Char} {ts : List Tok} {st : St} (h : run .top cs = (ts, st))
    (hb : st.boundary = true) : lex cs = some (ts ++ pending st) := by
  simp [lex, lexFrom, h, finish_boundary st hb]

theorem run_str_plain {acc : List Char} {c : Char} {cs : List Char} (h1 : c ≠ '\\') (h2 : c ≠ '\'') :
    run (.str acc) (c :: cs) = run (.str (acc ++ [c])) cs := by
  simp [run, step, h1, h2]

theorem run_str_unesc {acc : List Char} (p u : Char) {cs : List Char} (h : unesc p = some u) :
    run (.str acc) ('\\' :: p :: cs) = run (.str (acc ++ [u])) cs := by
  simp [run, step, h]

theorem run_str_bs_quote (acc cs : List Char) :
    run (.str acc) ('\\' :: '\'' :: cs) = run (.str (acc ++ ['\''])) cs := by
  simp [run, step, unesc]

theorem step_str_quote (acc : List Char) : step (.str acc) '\'' = ([], .strQ acc) := by simp [step]

/-- `h`: a second quote would make `''`, a quote inside the literal and not its end -/
theorem lexFrom_strQ (acc : List Char) (rest : List Char) (h : rest.head? ≠ some '\'') :
    lexFrom (.strQ acc) rest = (lex rest).map (.str acc :: ·) := by
  cases rest with
  | nil => simp [lexFrom, lex, run, finish]
  | cons c cs =>
    have hc : c ≠ '\'' := by simpa using h
    simp only [lex, lexFrom_cons, step, hc, if_false, thenTop, Option.map_map]
    rfl

theorem lexFrom_str_close {acc body s : List Char} (hbody : run (.str acc) body = ([], .str s)) (rest : List Char)
    (h : rest.head? ≠ some '\'') : lexFrom (.str acc) (body ++ '\'' :: rest) = (lex rest).map (.str s :: ·) := by
  rw [lexFrom_append_of_run hbody, lexFrom_cons_of_step (step_str_quote s), lexFrom_strQ s rest h]
  simp [Option.map_map, Function.comp_def]

theorem lexFrom_quoted (st : St) (hb : st.boundary = true) {body s : List Char}
    (hbody : run (.str []) body = ([], .str s)) (post : List Char) (h : post.head? ≠ some '\'') :
    lexFrom st ('\'' :: (body ++ '\'' :: post)) = (lex post).map (fun b => pending st ++ .str s :: b) := by
  rw [lexFrom_cons_of_step (step_boundary_quote st hb), lexFrom_str_close hbody post h]
  simp [Option.map_map, Function.comp_def]

theorem lex_quoted {pre body s : List Char} {tp : List Tok} {st : St} (hpre : run .top pre = (tp, st))
    (hb : st.boundary = true) (hbody : run (.str []) body = ([], .str s)) (post : List Char)
    (hpost : post.head? ≠ some '\'') :
    lex (pre ++ ('\'' :: body ++ ['\'']) ++ post) =
      (lex pre).bind fun a => (lex post).map fun b => a ++ .str s :: b := by
  rw [lex_of_run hpre hb, lex, List.append_assoc, lexFrom_append_of_run hpre]
  simp only [List.cons_append, List.append_assoc, List.nil_append]
  rw [lexFrom_quoted st hb hbody post hpost]
  simp [Option.map_map, Function.comp_def]

theorem run_block_body (body : List Char) (h : '*' ∉ body) : run .block (body ++ ['*', '/']) = ([], .top) := by
  induction body with
  | nil => simp [run, step]
  | cons c cs ih =>
    rw [List.mem_cons, not_or] at h
    simp [run, step, Ne.symm h.1, ih h.2]

end Fs.Lex
