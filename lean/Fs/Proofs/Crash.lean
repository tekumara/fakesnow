import Fs.Model.Crash
/-! Lemmas for C18 (`Fs/Props/C18.lean`): the engine on reads and writes, on a transaction block, and on a unit run to
    its end or cut short (`unit_complete`, `unit_partial`: the two branches of `crashSpec`). -/
namespace Fs.Crash

/-- a read or a write: a call that neither opens nor closes a transaction -/
def Call.isQW : Call → Bool
  | .q => true
  | .w _ => true
  | _ => false

theorem run_append (e : Eng) (a b : List Call) : e.run (a ++ b) = (e.run a).run b :=
  List.foldl_append

theorem run_cons (e : Eng) (c : Call) (cs : List Call) : e.run (c :: cs) = (e.call c).run cs := rfl

theorem flat_append (a b : List Stmt) : flat (a ++ b) = flat a ++ flat b := List.flatMap_append

theorem flat_effs (b : List Stmt) : (flat b).filterMap wOf = b.flatMap effs :=
  List.filterMap_flatMap ..

theorem run_qw {cs : List Call} (h : cs.all Call.isQW = true) (d : List Eff) (t : Option (List Eff)) :
    (Eng.mk d t).run cs = match t with
      | none => ⟨d ++ cs.filterMap wOf, none⟩
      | some b => ⟨d, some (b ++ cs.filterMap wOf)⟩ := by
  induction cs generalizing d t with
  | nil => cases t <;> simp [Eng.run]
  | cons c cs ih =>
    rw [List.all_cons, Bool.and_eq_true] at h
    cases c with
    | q => exact ih h.2 d t
    | w x => cases t <;> simp [run_cons, Eng.call, wOf, ih h.2]
    | _ => cases h.1

theorem take_qw {cs : List Call} (h : cs.all Call.isQW = true) (k : Nat) : (cs.take k).all Call.isQW = true :=
  List.all_eq_true.2 fun c hc => List.all_eq_true.1 h c (List.mem_of_mem_take hc)

theorem calls_qw {s : Stmt} (h : (!s.isTxCtl) = true) : (calls s).all Call.isQW = true := by
  cases s with
  | connect a b _ => cases a <;> cases b <;> rfl
  | createTable _ c l => cases c <;> cases l <;> rfl
  | insertMany _ rows => exact List.all_flatMap.trans (List.all_eq_true.2 fun _ _ => rfl)
  | begin | commit | rollback | commitConflict => cases h
  | _ => rfl

/-- `h` is what `TxUnit.ok` says of the body of a block -/
theorem body_qw {b : List Stmt} (h : (b.all fun s => !s.isTxCtl && !s.isAttach) = true) :
    (flat b).all Call.isQW = true := by
  rw [flat, List.all_flatMap, List.all_eq_true]
  intro s hs
  exact calls_qw (Bool.and_eq_true_iff.mp (List.all_eq_true.1 h s hs)).1

theorem run_begin_qw {cs : List Call} (h : cs.all Call.isQW = true) (d : List Eff) :
    (Eng.mk d none).run (.begin :: cs) = ⟨d, some (cs.filterMap wOf)⟩ :=
  run_qw h d (some [])

theorem flat_block (b : List Stmt) (s : Stmt) : flat (.begin :: b ++ [s]) = .begin :: flat b ++ calls s := by
  simp only [flat, List.flatMap_append, List.flatMap_cons, List.flatMap_nil, List.append_nil]; rfl

theorem run_block {b : List Stmt} (hb : (b.all fun s => !s.isTxCtl && !s.isAttach) = true) (s : Stmt) (d : List Eff) :
    (Eng.mk d none).run (flat (.begin :: b ++ [s])) = (Eng.mk d (some (b.flatMap effs))).run (calls s) := by
  rw [flat_block, run_append, run_begin_qw (body_qw hb), flat_effs]

theorem unit_complete (u : TxUnit) (hu : u.ok = true) (d : List Eff) :
    (Eng.mk d none).run (flat u.stmts) = ⟨d ++ u.eff, none⟩ := by
  -- constructor by constructor `hu : u.ok` unfolds to the hypothesis of `calls_qw` / `run_block`
  cases u with
  | auto s => rw [TxUnit.stmts, flat, List.flatMap_singleton]; exact run_qw (calls_qw hu) d none
  | txc b => exact run_block hu .commit d
  | txr b | txf b => exact (run_block hu _ d).trans (congrArg (Eng.mk · none) (List.append_nil d).symm)

theorem unit_partial (u : TxUnit) (hu : u.ok = true) (d : List Eff) (k : Nat) (hk : k < (flat u.stmts).length) :
    ((Eng.mk d none).run ((flat u.stmts).take k)).disk = d ++ u.partialEff k := by
  cases u with
  | auto s =>
    rw [TxUnit.stmts, flat, List.flatMap_singleton]
    exact congrArg Eng.disk (run_qw (take_qw (calls_qw hu) k) d none)
  | txc b | txr b | txf b =>
    -- cut before its closing call, a block is BEGIN and a prefix of its body: the log is untouched
    refine .trans ?_ (List.append_nil d).symm
    rw [TxUnit.stmts, flat_block] at hk ⊢
    cases k with
    | zero => rfl
    | succ k =>
      rw [List.length_append] at hk
      rw [List.take_append_of_le_length (Nat.le_of_lt_succ hk), List.take_succ_cons,
        run_begin_qw (take_qw (body_qw hu) k)]

theorem flat_hist_cons (u : TxUnit) (us : List TxUnit) : flat (hist (u :: us)) = flat u.stmts ++ flat (hist us) := by
  rw [hist, List.flatMap_cons, flat_append]; rfl

theorem crash_length (e : Eng) (h : List Stmt) : crash e h (flat h).length = finish e h := by
  rw [crash, List.take_length]; rfl

theorem disk_mono {cs : List Call} {e : Eng} : e.disk <+: (e.run cs).disk := by
  induction cs generalizing e with
  | nil => exact List.prefix_refl _
  | cons c cs ih =>
    refine List.IsPrefix.trans ?_ ih
    obtain ⟨d, t⟩ := e
    cases c <;> cases t <;> simp [Eng.call]

theorem dump_snoc_noop (log : List Eff) (x : Eff) (hx : ∀ st, applyEff st x = st) : dump (log ++ [x]) = dump log := by
  rw [dump, List.foldl_append, List.foldl_cons, List.foldl_nil, hx]; rfl

theorem crashSpec_lt (u : TxUnit) (us : List TxUnit) {k : Nat} (hk : k < (flat u.stmts).length) :
    crashSpec (u :: us) k = u.partialEff k := by
  rw [crashSpec, if_neg (Nat.not_le_of_gt hk)]

theorem partialEff_prefix {u : TxUnit} (j : Nat) : u.partialEff j <+: u.eff := by
  cases u with
  | auto s => exact (List.take_prefix _ _).filterMap _
  | _ => exact List.nil_prefix

end Fs.Crash
