import Fs.Proofs.Merge
/-! Counts reported by MERGE (`_counts`: COUNT_IF over merge_candidates) vs rows affected by MERGE semantics. -/
namespace Fs.Merge

/-- "deterministic merge": each target row joins at most one source row, duplicates counted (stronger than `H1`, which
    allows equal duplicates: `H1c_H1`) -/
def H1c (tgt : List TRow) (src : List SRow) : Prop := ∀ t ∈ tgt, (src.filter (on t)).length ≤ 1

theorem h1cb_iff {tgt src} : h1cb tgt src = true ↔ H1c tgt src := by
  simp only [h1cb, H1c, List.all_eq_true, decide_eq_true_eq]

theorem H1c_H1 {tgt src} (h : H1c tgt src) : H1 tgt src := by
  intro t ht s hs s' hs' h1 h2
  have m1 : s ∈ src.filter (on t) := List.mem_filter.mpr ⟨hs, h1⟩
  have m2 : s' ∈ src.filter (on t) := List.mem_filter.mpr ⟨hs', h2⟩
  rw [filter_le_one (h t ht), Option.mem_toList] at m1 m2
  exact Option.some.inj (m1.symm.trans m2)

/-- is the clause `specRow` applies to `t` of kind `k`: the predicate `specCount` filters the target with -/
def rowKind (cs : List Clause) (src : List SRow) (k : Kind) (t : TRow) : Bool :=
  match src.find? (on t) with
  | none => false
  | some s => match opM cs t s with
    | none => false
    | some i => match cs[i]? with
      | some c => c.kind == k
      | none => false

theorem specCount_matched {cs tgt src kd} (hk : kd ≠ .ins) :
    specCount cs tgt src kd = (tgt.filter (rowKind cs src kd)).length := by
  cases kd with
  | ins => exact absurd rfl hk
  | _ => rfl

/-- the list filtered is what `t` contributes to `candsM`: one candidate of kind `kd`, or none -/
theorem row_count {cs src} (kd : Kind) (t : TRow) (h : (src.filter (on t)).length ≤ 1) :
    (((src.filter (on t)).filterMap fun s => (opM cs t s).map fun i => (⟨s, i⟩ : Cand)).filter
        (kindAt cs kd)).length = if rowKind cs src kd t = true then 1 else 0 := by
  rw [filter_le_one h]
  unfold rowKind
  cases src.find? (on t) with
  | none => rfl
  | some s =>
    cases hop : opM cs t s with
    | none => simp only [Option.toList, List.filterMap_cons, hop]; rfl
    | some i =>
      simp only [Option.toList, List.filterMap_cons, hop, Option.map_some, List.filterMap_nil, List.filter_cons,
        List.filter_nil, kindAt]
      exact apply_ite List.length _ _ _

theorem candsM_count {cs src kd tgt} (h : H1c tgt src) :
    ((candsM cs tgt src).filter (kindAt cs kd)).length = (tgt.filter (rowKind cs src kd)).length := by
  induction tgt with
  | nil => rfl
  | cons t ts ih =>
    rw [candsM, List.flatMap_cons, List.filter_append, List.length_append, row_count kd t (h t List.mem_cons_self),
      ← candsM, ih fun t' ht' => h t' (List.mem_cons_of_mem t ht'), List.filter_cons, Nat.add_comm]
    split <;> rfl

theorem rowKind_ins_false {cs src t} : rowKind cs src .ins t = false := by
  unfold rowKind
  cases src.find? (on t) with
  | none => rfl
  | some s =>
    simp only
    cases ho : opM cs t s with
    | none => rfl
    | some i =>
      obtain ⟨cl, hcl, hm⟩ := opM_matched ho
      simp only [hcl]
      cases cl with
      | nInsert => cases hm
      | _ => rfl

theorem cands_count_eq_specCount {cs tgt src} (h : H1c tgt src) (kd : Kind) :
    ((cands cs tgt src).filter (kindAt cs kd)).length = specCount cs tgt src kd := by
  by_cases hk : kd = .ins
  · rw [hk, cands_filter_ins, specCount, specInserts_eq, List.length_map]
  · have hN : (candsN cs tgt src).filter (kindAt cs kd) = [] := List.filter_eq_nil_iff.mpr fun k hc => by
      rw [kindAt_candsN hc, beq_eq_false_iff_ne.mpr hk]; exact Bool.false_ne_true
    rw [cands_split, List.filter_append, hN, List.append_nil, specCount_matched hk]
    exact candsM_count h

end Fs.Merge
