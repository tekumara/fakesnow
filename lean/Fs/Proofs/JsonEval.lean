import Fs.Proofs.JsonPipeline
import Fs.Proofs.JsonText
/-! C11: DuckDB's value of the rewritten tree = the specified value, on the named shapes. -/
namespace Fs.Json

theorem BIdx.truthy_of_ok {i : BIdx} (h : i.ok = true) : i.truthy = true := by
  cases i <;> simp only [BIdx.ok, simpleKey, Bool.and_eq_true] at h
  · exact h.1.1.1
  · exact h.1

theorem eval_accout (doc : Env) (a : Acc) (h : a.ok = true) : evalDuck doc a.out = evalSpec doc a.toE := by
  rcases a with (_ | ⟨n, p⟩) | ⟨n, i⟩
  · rfl
  · simp only [Acc.out, Nav.out, Acc.toE, Nav.toE, evalDuck, evalSpec, eval_nav, arrow_path]
  · simp only [Acc.out, BIdx.truthy_of_ok h, if_true, Acc.toE, evalDuck, evalSpec, eval_nav, arrow_bracketPath _ i h]

theorem eval_outScalar (doc : Env) (a : Acc) (h : a.ok = true) :
    evalDuck doc a.outScalar = bif a.isPath then scalarOf (evalSpec doc a.toE) else evalSpec doc a.toE := by
  rcases a with (_ | ⟨n, p⟩) | ⟨n, i⟩
  · rfl
  · simp only [Acc.outScalar, Acc.isPath, cond_true, Acc.toE, Nav.toE, evalDuck, evalSpec, eval_nav, arrow2, arrow_path]
  · exact eval_accout doc (.brk n i) h

theorem duckText_scalarOf (v : Val) : duckText (scalarOf v) = specText v := by
  cases v with
  | bool b => cases b <;> rfl
  | _ => rfl

theorem duckText_of_nonstr (v : Val) (h : (!v.isJsonStr) = true) : duckText v = specText v := by
  cases v with
  | json j => cases j <;> first | rfl | cases h
  | bool b => cases b <;> rfl
  | _ => rfl

/-- text conversion of what DuckDB holds for an access (`->>` text for a `:`-path, else the value itself) -/
theorem duckText_conv {b : Bool} {v : Val} (h : (b || !v.isJsonStr) = true) :
    duckText (bif b then scalarOf v else v) = specText v := by
  cases b
  · exact duckText_of_nonstr v h
  · exact duckText_scalarOf v

theorem duckText_specText (v : Val) : duckText (specText v) = specText v := by
  cases v with
  | bool b => cases b <;> rfl
  | _ => rfl

theorem castInt_scalarOf (v : Val) (hc : castOK .int v = true) : castInt (scalarOf v) = specCastInt v := by
  cases v with
  | json j =>
    cases j with
    | num n =>
      show castInt (.text (intDigits n)) = .int n
      rw [castInt, parseInt_intDigits]
    | str s => rfl
    | _ => cases hc
  | _ => rfl

theorem render_bool_true : render (.bool true) = "true".toList := rfl
theorem render_bool_false : render (.bool false) = "false".toList := rfl

theorem castBool_scalarOf (v : Val) (hc : castOK .bool v = true) : castBool (scalarOf v) = specCastBool v := by
  cases v with
  | json j =>
    cases j with
    -- `castBool` reads back the text `render` writes for a boolean; evaluated, because both are string literals
    | bool b => cases b <;> decide +kernel
    | str s => rfl
    | _ => cases hc
  | _ => rfl

theorem duckCast_of_nonstr (t : Ty) (v : Val) (h : (!v.isJsonStr) = true) : duckCast t v = specCast t v := by
  cases t
  · exact duckText_of_nonstr v h
  all_goals
    cases v with
    | json j => cases j <;> first | rfl | cases h
    | _ => rfl

theorem duckCast_conv {t : Ty} {b : Bool} {v : Val} (hc : castOK t v = true) (h : (b || !v.isJsonStr) = true) :
    duckCast t (bif b then scalarOf v else v) = specCast t v := by
  cases b
  · exact duckCast_of_nonstr t v h
  · cases t
    · exact duckText_scalarOf v
    · exact castInt_scalarOf v hc
    · exact castBool_scalarOf v hc

theorem caseLenVal_of_nonempty {v : Val} (h : (!v.isEmptyArr) = true) : caseLenVal v = specArraySize v := by
  cases v with
  | json j =>
    cases j with
    | arr l => cases l with
      | nil => cases h
      | cons x t => rfl
    | _ => rfl
  | _ => rfl

theorem use_correct (doc : Env) (u : Use) (h : u.ok doc = true) :
    evalDuck doc (pipeline u.toE) = evalSpec doc u.toE := by
  cases u <;> simp only [Use.ok, Bool.and_eq_true] at h
  case bare a => rw [Use.toE, pipeline_bare]; exact eval_accout doc a h
  case isNull a => simp only [Use.toE, pipeline_isNull, evalDuck, evalSpec, eval_accout doc a h]
  case arraySize a =>
    simp only [Use.toE, pipeline_arraySize, evalDuck, evalSpec, eval_accout doc a h.1, caseLenVal_of_nonempty h.2]
  case cast a t =>
    simp only [Use.toE, pipeline_cast, evalDuck, evalSpec, eval_outScalar doc a h.1.1, duckCast_conv h.1.2 h.2]
  case upper a =>
    simp only [Use.toE, pipeline_upper, evalDuck, evalSpec, eval_outScalar doc a h.1, duckText_conv h.2]
  case lower a =>
    simp only [Use.toE, pipeline_lower, evalDuck, evalSpec, eval_outScalar doc a h.1, duckText_conv h.2]
  case trim a =>
    simp only [Use.toE, pipeline_trim, pipeline_cast, evalDuck, evalSpec, duckCast, eval_outScalar doc a h.1, duckText_conv h.2,
      duckText_specText]

/-- the `jsonText` argument is only consulted for a JSON value against a text -/
theorem evalEq_congr {f g : Json → List Char → Val} {a b : Val} (h : mixedEq a b = false) :
    evalEq f a b = evalEq g a b := by
  unfold evalEq
  split <;> first | rfl | cases h

theorem evalBin_congr {f g : Json → List Char → Val} {o : Op} {a b : Val} (h : (o == .eq && mixedEq a b) = false) :
    evalBin f o a b = evalBin g o a b := by
  cases o <;> try rfl
  exact evalEq_congr h

theorem eval_nestedInnerOut (doc : Env) (n : Nav) (p : Path) :
    evalDuck doc (nestedInnerOut n p) = evalSpec doc (nestedInner n p) := by
  simp only [nestedInnerOut, nestedInner, evalDuck, evalSpec, eval_nav, arrow2, arrow_path, duckCast, specCast,
    duckText_scalarOf]

end Fs.Json
