import Fs.Proofs.Sched
/-! C19: with the instance lock around the connect bootstrap, concurrent connects never fail
    (invariant proof over all schedules). -/
namespace Fs.Sched

theorem setG_held {g : Key → Val} {k : Key} {v : Val} (h : v.held = (g k).held) (k' : Key) :
    (setG g k v k').held = (g k').held := by
  unfold setG; split
  · next e => rw [e, h]
  · rfl

/-- What the holder of lock 0 still has to run, up to and including the `release 0`, such that no call in it can fail: the
    shape of the ladder `connectWith` builds (`conn.py:55-101`, under the instance lock of `FakeSnow.connect`).  The index says
    what the flag `absent` is worth: `some k` – it still tells whether `k` exists (`k` was probed and nobody has run since);
    `none` – nothing is known. -/
inductive Guarded : Option Key → List Instr → Prop
  | release {w} : Guarded w [.release 0]
  | probe {w k is} : Guarded (some k) is → Guarded w (.probe k :: is)
  | create {k is} : Guarded none is → Guarded (some k) (.callIfAbsent k .create :: is)
  | setInfo {w k is} : Guarded none is → Guarded w (.callIfAbsent k .setInfo :: is)

theorem Guarded.of_skipCond {w : Option Key} {is : List Instr} (h : Guarded w is) (a : Bool) : Guarded w (skipCond a is) := by
  cases a with
  | true => rwa [skipCond_true]
  | false =>
    -- what is left begins with a probe or the release, and those are guarded whatever the flag is worth
    suffices ∀ w', Guarded w' (skipCond false is) from this w
    induction h with
    | release => exact fun _ => .release
    | probe h _ => exact fun _ => .probe h
    | create _ ih => exact ih
    | setInfo _ ih => exact ih

theorem connectWith_guarded (cd cs : Bool) (d s : Nat) :
    ∃ is, connectWith (some 0) cd cs d s = .acquire 0 :: is ∧ Guarded none is := by
  refine ⟨_, rfl, ?_⟩
  match cd, cs with
  | false, false => exact .probe .release
  | false, true => exact .probe (.create (.probe .release))
  | true, false => exact .probe (.create (.setInfo (.probe .release)))
  | true, true => exact .probe (.create (.setInfo (.probe (.create (.probe .release)))))

/-- the lock holder is inside a guarded ladder, and the flag of a pending conditional CREATE agrees with the engine state -/
def Holds (g : Key → Val) (l : Loc) : Prop :=
  ∃ w, Guarded w l.cur ∧ ∀ k, w = some k → l.absent = true → (g k).ex = false

/-- Nobody has failed, only locked ladders are still to come, and mutual exclusion: the session that holds lock 0 is
    inside its ladder, everybody else is between statements (so their turns can only stutter or take the free lock). -/
def Inv (c : Cfg) : Prop := ∀ i,
  Res.err ∉ (c.loc i).out ∧ (∀ st ∈ (c.loc i).rest, ∃ is, st = .acquire 0 :: is ∧ Guarded none is) ∧
  if (c.g (.lock 0)).held = some i then Holds c.g (c.loc i) else (c.loc i).cur = []

/-- a turn of `i` that finds lock 0 its own or free (`hb`) and leaves it so (`ha`) has only `i`'s part of `Inv` to re-establish -/
theorem Inv.set {c : Cfg} (hinv : Inv c) (i : Nat) {g' : Key → Val} {l' : Loc}
    (hb : (c.g (.lock 0)).held = some i ∨ (c.g (.lock 0)).held = none)
    (hout : Res.err ∉ l'.out) (hrest : ∀ st ∈ l'.rest, st ∈ (c.loc i).rest)
    (ha : (g' (.lock 0)).held = some i ∧ Holds g' l' ∨ (g' (.lock 0)).held = none ∧ l'.cur = []) :
    Inv ⟨g', setLoc c.loc i l'⟩ := by
  intro j
  by_cases hj : j = i
  · subst hj
    simp only [setLoc_same]
    refine ⟨hout, fun st h => (hinv j).2.1 st (hrest st h), ?_⟩
    rcases ha with ⟨e, h⟩ | ⟨e, h⟩
    · rwa [if_pos e]
    · rwa [if_neg (e ▸ nofun)]
  · have other : ∀ {o : Option Nat}, o = some i ∨ o = none → o ≠ some j := by
      rintro _ (rfl | rfl) e
      · exact hj (Option.some.inj e).symm
      · cases e
    obtain ⟨h1, h2, h3⟩ := hinv j
    simp only [setLoc, if_neg hj]
    rw [if_neg (other hb)] at h3
    exact ⟨h1, h2, by rwa [if_neg (other (ha.imp And.left And.left))]⟩

theorem not_err_append {out : List Res} {r : Res} (h : Res.err ∉ out) (hr : r ≠ .err) : Res.err ∉ out ++ [r] := by
  simpa [h] using hr.symm

theorem inv_turn (c : Cfg) (i : Nat) (hinv : Inv c) : Inv (turn c i) := by
  obtain ⟨hout, hrest, hcur⟩ := hinv i
  by_cases hh : (c.g (.lock 0)).held = some i
  · rw [if_pos hh] at hcur
    obtain ⟨w, hG, hw⟩ := hcur
    have hG' := hG.of_skipCond (c.loc i).absent
    -- `Guarded` does not restrict the keys of a ladder (`k` may be `.lock 0`): what keeps the holder is that no call writes `held`
    have step : ∀ {k : Key} {v' : Val} {l' : Loc}, v'.held = (c.g k).held → Res.err ∉ l'.out → l'.rest = (c.loc i).rest →
        Holds (setG c.g k v') l' → Inv ⟨setG c.g k v', setLoc c.loc i l'⟩ := fun hv ho hr hH =>
      hinv.set i (.inl hh) ho (fun _ h => hr ▸ h) (.inl ⟨(setG_held hv (.lock 0)).trans hh, hH⟩)
    generalize hsk : skipCond (c.loc i).absent (c.loc i).cur = sk at hG'
    cases hG' with
    | release =>
      rw [turn_eq (stepOf_release (settle_cons hsk))]
      exact hinv.set i (.inl hh) hout (fun _ h => h) (.inr ⟨by rw [setG_same], rfl⟩)
    | @probe _ k tl hG'' =>
      rw [turn_eq (stepOf_probe (settle_cons hsk))]
      refine step rfl (not_err_append hout nofun) rfl ⟨some k, hG'', fun k' e ha => ?_⟩
      cases e
      rw [setG_same]; simpa using ha
    | @create k tl hG'' =>
      have hex := hw k rfl (skipCond_callIfAbsent hsk)
      rw [turn_eq (stepOf_callIfAbsent (settle_cons hsk))]
      have e : Op.create.apply (c.g k) = ({ c.g k with ex := true }, .ok) := by rw [Op.apply, hex]; rfl
      simp only [e]
      exact step rfl (not_err_append hout nofun) rfl ⟨none, hG'', nofun⟩
    | @setInfo _ k tl hG'' =>
      rw [turn_eq (stepOf_callIfAbsent (settle_cons hsk))]
      exact step rfl (not_err_append hout nofun) rfl ⟨none, hG'', nofun⟩
  · rw [if_neg hh] at hcur
    cases hr : (c.loc i).rest with
    | nil => rw [turn_done (stepOf_none (by rw [hcur, hr]; rfl))]; exact hinv
    | cons st r =>
      obtain ⟨is, rfl, hG⟩ := hrest st (hr ▸ List.mem_cons_self)
      rw [turn_eq (stepOf_acquire (settle_start hcur hr rfl))]
      cases hheld : (c.g (.lock 0)).held with
      | some _ =>   -- the lock is taken: the turn changes nothing
        simp only [reduceCtorEq, if_false, setG_self, setLoc_self]
        exact hinv
      | none =>
        simp only [if_true]
        exact hinv.set i (.inr hheld) hout (fun _ h => hr ▸ List.mem_cons_of_mem _ h)
          (.inl ⟨by rw [setG_same], none, hG, nofun⟩)

/-- no call of a guarded ladder ever fails, whatever keys the ladders probe and create – the same ones in all sessions included:
    the argument is mutual exclusion (`Inv`), not disjointness -/
theorem guarded_never_fail (progs : List (List Stmt))
    (h : ∀ p ∈ progs, ∀ st ∈ p, ∃ is, st = .acquire 0 :: is ∧ Guarded none is) (σ : List Nat) (i : Nat) :
    Res.err ∉ ((runSched (Cfg.init progs) σ).loc i).out := by
  have hinv : Inv (Cfg.init progs) := fun j =>
    ⟨nofun, forall_init_rest h j, by simp [Cfg.init]⟩
  exact (runSched_inv inv_turn σ _ hinv i).1

end Fs.Sched
